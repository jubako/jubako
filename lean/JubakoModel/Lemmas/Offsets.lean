/-
Byte strings laid end to end and the table of their end offsets, and the loop that reads such a table back
(`offsets_go_spec`).  Cluster tails (Cluster.lean) and indexed value stores (Order.lean, DirFileStore.lean) are both
such tables.
-/
import JubakoModel.Model.ContentPack
import JubakoModel.Lemmas.Codec

namespace Jubako

def lenSum (bs : List Bytes) : Nat := (bs.map List.length).sum

theorem lenSum_nil : lenSum [] = 0 := rfl

theorem lenSum_cons (b : Bytes) (bs : List Bytes) : lenSum (b :: bs) = b.length + lenSum bs := by
  simp [lenSum]

theorem lenSum_flatten (bs : List Bytes) : bs.flatten.length = lenSum bs := by
  simp [lenSum, List.length_flatten]

theorem lenSum_append (a b : List Bytes) : lenSum (a ++ b) = lenSum a + lenSum b := by
  simp [lenSum]

theorem lenSum_take_le (bs : List Bytes) (k : Nat) : lenSum (bs.take k) ≤ lenSum bs := by
  have := lenSum_append (bs.take k) (bs.drop k)
  rw [List.take_append_drop] at this
  omega

theorem lenSum_take_mono (l : List Bytes) {i j : Nat} (h : i ≤ j) :
    lenSum (l.take i) ≤ lenSum (l.take j) := by
  have := lenSum_take_le (l.take j) i
  rwa [List.take_take, Nat.min_eq_left h] at this

/-- where segment `k` of a concatenation starts, ends and stands -/
theorem flatten_segment (bs : List Bytes) (k : Nat) (hk : k < bs.length) :
    lenSum (bs.take (k + 1)) = lenSum (bs.take k) + bs[k].length ∧
    lenSum (bs.take k) + bs[k].length ≤ lenSum bs ∧
    slice bs.flatten (lenSum (bs.take k)) bs[k].length = bs[k] := by
  have h1 : lenSum (bs.take (k + 1)) = lenSum (bs.take k) + bs[k].length := by
    rw [List.take_add_one, lenSum_append, List.getElem?_eq_getElem hk]
    simp [lenSum]
  have e : bs.flatten = (bs.take k).flatten ++ (bs[k] ++ (bs.drop (k + 1)).flatten) := by
    rw [← List.flatten_cons, ← List.drop_eq_getElem_cons hk, ← List.flatten_append, List.take_append_drop]
  refine ⟨h1, h1 ▸ lenSum_take_le bs (k + 1), ?_⟩
  rw [e]
  exact slice_at (lenSum_flatten _) rfl

theorem lenSum_take_succ (bs : List Bytes) (k : Nat) (hk : k < bs.length) :
    lenSum (bs.take (k + 1)) = lenSum (bs.take k) + (bs.getD k []).length :=
  getD_of_lt bs k [] hk ▸ (flatten_segment bs k hk).1

theorem slice_flatten (bs : List Bytes) (k : Nat) (hk : k < bs.length) :
    slice bs.flatten (lenSum (bs.take k)) (bs.getD k []).length = bs.getD k [] :=
  getD_of_lt bs k [] hk ▸ (flatten_segment bs k hk).2.2

theorem endOffsets_length (bs : List Bytes) (acc : Nat) :
    (endOffsets bs acc).length = bs.length := by
  induction bs generalizing acc with
  | nil => rfl
  | cons b bs ih => simp [endOffsets, ih]

theorem endOffsets_getElem? (bs : List Bytes) (acc k : Nat) (hk : k < bs.length) :
    (endOffsets bs acc)[k]? = some (acc + lenSum (bs.take (k + 1))) := by
  induction bs generalizing acc k with
  | nil => simp at hk
  | cons b bs ih =>
    cases k with
    | zero => simp [endOffsets, lenSum]
    | succ k =>
      have hk' : k < bs.length := by simpa using hk
      simp only [endOffsets, List.getElem?_cons_succ, List.take_succ_cons, lenSum_cons,
        ih _ _ hk']
      congr 1
      omega

theorem endOffsets_getD (bs : List Bytes) (acc k : Nat) (hk : k < bs.length) :
    (endOffsets bs acc).getD k 0 = acc + ((bs.take (k+1)).map List.length).sum := by
  rw [List.getD_eq_getElem?_getD, endOffsets_getElem? bs acc k hk]
  rfl

theorem endOffsets_last_acc (bs : List Bytes) (acc : Nat) (h : bs ≠ []) :
    (endOffsets bs acc).getLast? = some (acc + lenSum bs) := by
  have hl : 0 < bs.length := List.length_pos_iff.mpr h
  rw [List.getLast?_eq_getElem?, endOffsets_length,
    endOffsets_getElem? bs acc (bs.length - 1) (by omega)]
  rw [show bs.length - 1 + 1 = bs.length by omega, List.take_length]

theorem endOffsets_last (bs : List Bytes) (h : bs ≠ []) :
    (endOffsets bs 0).getLast? = some ((bs.map List.length).sum) := by
  rw [endOffsets_last_acc bs 0 h, Nat.zero_add]
  rfl

theorem endOffsets_le_total (bs : List Bytes) (acc : Nat) :
    ∀ o ∈ endOffsets bs acc, o ≤ acc + (bs.map List.length).sum := by
  induction bs generalizing acc with
  | nil => intro o ho; simp [endOffsets] at ho
  | cons b bs ih =>
    intro o ho
    simp only [endOffsets, List.mem_cons] at ho
    simp only [List.map_cons, List.sum_cons]
    rcases ho with rfl | ho
    · omega
    · have := ih _ o ho
      omega

theorem endOffsets_append (bs : List Bytes) (d : Bytes) (acc : Nat) :
    endOffsets (bs ++ [d]) acc = endOffsets bs acc ++ [((endOffsets bs acc).getLast?.getD acc) + d.length] := by
  induction bs generalizing acc with
  | nil => simp [endOffsets]
  | cons b bs ih =>
    simp only [List.cons_append, endOffsets, ih]
    cases hb : endOffsets bs (acc + b.length) with
    | nil => simp
    | cons x xs => simp [List.getLast?_cons]

theorem endOffsets_dropLast (l : List Bytes) (acc : Nat) :
    (endOffsets l acc).dropLast = endOffsets l.dropLast acc := by
  induction l generalizing acc with
  | nil => rfl
  | cons x xs ih =>
    cases xs with
    | nil => rfl
    | cons y ys =>
      simp only [endOffsets, List.dropLast_cons_cons]
      rw [← ih (acc + x.length)]
      simp [endOffsets]

theorem endOffsets_dropLast_append (bs : List Bytes) (h : bs ≠ []) :
    (endOffsets bs 0).dropLast ++ [lenSum bs] = endOffsets bs 0 := by
  have hl := endOffsets_last_acc bs 0 h
  rw [Nat.zero_add] at hl
  obtain ⟨ys, hys⟩ := List.getLast?_eq_some_iff.mp hl
  rw [hys, List.dropLast_concat]

theorem bounds_getD (bs : List Bytes) (k : Nat) (hk : k ≤ bs.length) :
    (0 :: endOffsets bs 0).getD k 0 = lenSum (bs.take k) := by
  cases k with
  | zero => simp [lenSum]
  | succ k =>
    rw [List.getD_cons_succ, List.getD_eq_getElem?_getD, endOffsets_getElem? bs 0 k (by omega)]
    simp

theorem readUN_ok (bs : Bytes) (off n v : Nat) (hlen : off + n ≤ bs.length)
    (hs : slice bs off n = leBytes v n) (hv : v < 256 ^ n) : readUN bs off n = .ok v := by
  simp only [readUN, hlen, if_true, hs, leNat_leBytes_of_lt v n hv]

/-- `hn`: a read of no bytes past the end is an error -/
theorem readUN_of_drop {bs g : Bytes} {off n v : Nat} (h : bs.drop off = leBytes v n ++ g)
    (hn : 0 < n) (hv : v < 256 ^ n) : readUN bs off n = .ok v := by
  have hl := congrArg List.length h
  rw [List.length_drop, List.length_append, leBytes_length] at hl
  exact readUN_ok bs off n v (by omega) (slice_of_drop h (leBytes_length v n)) hv

/-- `go` is any offsets loop, given by its two equations: `ClusterTail.decode.go` and
    `valueStoreTailDecode.go` are such loops, both equations by `rfl`.  `hb` has no `++ g` behind the table: in both
    tails the offsets are the last field. -/
theorem offsets_go_spec (bs : Bytes) (w data base : Nat) (msg : String) (hw : 1 ≤ w)
    (go : Nat → Nat → List Nat → Outcome (List Nat)) (go_zero : ∀ i acc, go i 0 acc = .ok acc.reverse)
    (go_succ : ∀ i n acc, go i (n + 1) acc = readUN bs (base + i * w) w >>= fun v =>
      if v ≤ data then go (i + 1) n (v :: acc) else .panic msg)
    (rest : List Nat) (i : Nat) (acc : List Nat)
    (hb : bs.drop (base + i * w) = (rest.map (fun o => leBytes o w)).flatten)
    (hr : ∀ o ∈ rest, o ≤ data ∧ o < 256 ^ w) :
    go i rest.length acc = .ok (acc.reverse ++ rest) := by
  induction rest generalizing i acc with
  | nil => simp [go_zero]
  | cons o rest ih =>
    obtain ⟨ho1, ho2⟩ := hr o (List.mem_cons_self ..)
    rw [List.map_cons, List.flatten_cons] at hb
    rw [List.length_cons, go_succ, readUN_of_drop hb hw ho2, Outcome.ok_bind, if_pos ho1,
      ih (i + 1) (o :: acc) (by rw [Nat.succ_mul, ← Nat.add_assoc]; exact drop_skip_len hb (leBytes_length o w))
        (fun x hx => hr x (List.mem_cons_of_mem _ hx)), List.reverse_cons,
      List.append_assoc, List.singleton_append]

end Jubako
