/-
Lemmas on `RangeTrait::find` (`Model/Search.lean`): binary search vs. linear scan.

`MonoCmp` is three implications over `i < j < count`; the proofs use its rank formulation
(`monoCmp_iff_rank`).
-/
import JubakoModel.Model.Search

namespace Jubako

def MonoCmp (cmp : Nat → Ordering) (count : Nat) : Prop :=
  ∀ i j, i < j → j < count →
    (cmp i = .gt → cmp j = .gt) ∧ (cmp i = .eq → cmp j ≠ .lt) ∧ (cmp j = .lt → cmp i = .lt)

def ordRank : Ordering → Nat
  | .lt => 0
  | .eq => 1
  | .gt => 2

theorem ordRank_le_iff (a b : Ordering) :
    ordRank a ≤ ordRank b ↔ (a = .gt → b = .gt) ∧ (a = .eq → b ≠ .lt) ∧ (b = .lt → a = .lt) := by
  cases a <;> cases b <;> decide

/-- the rank formulation of `MonoCmp`; over `i ≤ j`, so that a probe at the very index of an
    `Equal` entry needs no case of its own -/
theorem monoCmp_iff_rank (cmp : Nat → Ordering) (count : Nat) :
    MonoCmp cmp count ↔ ∀ i j, i ≤ j → j < count → ordRank (cmp i) ≤ ordRank (cmp j) := by
  simp only [MonoCmp, ← ordRank_le_iff]
  constructor
  · intro hm i j hij hj
    rcases Nat.lt_or_eq_of_le hij with h | h
    · exact hm i j h hj
    · rw [h]; exact Nat.le_refl _
  · exact fun hr i j hij => hr i j (Nat.le_of_lt hij)

theorem mid_lt {l r : Nat} (h : l < r) : l + (r - l) / 2 < r := by omega

theorem bsearchLoop_sound (cmp : Nat → Ordering) (fuel left right i : Nat)
    (h : bsearchLoop cmp fuel left right = some i) : left ≤ i ∧ i < right ∧ cmp i = .eq := by
  fun_induction bsearchLoop cmp fuel left right with
  | case1 => cases h
  | case2 fuel left right hlr size mid hc ih =>
    exact ⟨Nat.le_trans (Nat.le_succ_of_le (Nat.le_add_right _ _)) (ih h).1, (ih h).2⟩
  | case3 fuel left right hlr size mid hc ih =>
    exact ⟨(ih h).1, Nat.lt_trans (ih h).2.1 (mid_lt hlr), (ih h).2.2⟩
  | case4 fuel left right hlr size mid hc =>
    rw [← Option.some.inj h]; exact ⟨Nat.le_add_right _ _, mid_lt hlr, hc⟩
  | case5 => cases h

theorem findOrdered_sound (cmp : Nat → Ordering) (count i : Nat)
    (h : findOrdered cmp count = some i) : i < count ∧ cmp i = .eq :=
  (bsearchLoop_sound cmp _ _ _ _ h).2

/-- on a monotone comparator the loop never steps past an `Equal` entry -/
theorem bsearchLoop_complete (cmp : Nat → Ordering) (count : Nat) (hm : MonoCmp cmp count)
    (fuel left right : Nat) (hf : right - left < fuel) (hrc : right ≤ count)
    (i : Nat) (hli : left ≤ i) (hir : i < right) (hi : cmp i = .eq) :
    (bsearchLoop cmp fuel left right).isSome := by
  rw [monoCmp_iff_rank] at hm
  fun_induction bsearchLoop cmp fuel left right with
  | case1 => omega
  | case2 fuel left right hlr size mid hc ih =>
    have hl : left ≤ mid := Nat.le_add_right _ _
    have hr : mid < right := mid_lt hlr
    -- forget `mid = left + size / 2`: `omega` is slow on the division
    clear_value mid
    -- `i ≤ mid` would rank `Equal` below `Less`
    refine ih (by omega) hrc (Nat.lt_of_not_le fun h => ?_) hir
    have := hm i mid h (by omega)
    rw [hi, hc] at this
    cases this
  | case3 fuel left right hlr size mid hc ih =>
    have hl : left ≤ mid := Nat.le_add_right _ _
    have hr : mid < right := mid_lt hlr
    clear_value mid
    refine ih (by omega) (by omega) hli (Nat.lt_of_not_le fun h => ?_)
    have := hm mid i h (by omega)
    rw [hi, hc] at this
    contradiction
  | case4 => rfl
  | case5 => omega

theorem findOrdered_isSome_iff (cmp : Nat → Ordering) (count : Nat) (hm : MonoCmp cmp count) :
    (findOrdered cmp count).isSome ↔ ∃ i, i < count ∧ cmp i = .eq := by
  constructor
  · intro h
    obtain ⟨j, hj⟩ := Option.isSome_iff_exists.mp h
    exact ⟨j, findOrdered_sound cmp count j hj⟩
  · rintro ⟨i, hi, he⟩
    exact bsearchLoop_complete cmp count hm _ _ _ (by omega) (Nat.le_refl _) i (Nat.zero_le _) hi he

theorem findOrdered_none_iff (cmp : Nat → Ordering) (count : Nat) (hm : MonoCmp cmp count) :
    findOrdered cmp count = none ↔ ∀ i, i < count → cmp i ≠ .eq := by
  rw [← Option.not_isSome_iff_eq_none, findOrdered_isSome_iff cmp count hm]
  exact ⟨fun h i hi he => h ⟨i, hi, he⟩, fun h ⟨i, hi, he⟩ => h i hi he⟩

theorem findLinear_some_iff (cmp : Nat → Ordering) (count i : Nat) :
    findLinear cmp count = some i ↔ (i < count ∧ cmp i = .eq ∧ ∀ j, j < i → cmp j ≠ .eq) := by
  unfold findLinear
  rw [List.find?_range_eq_some]
  simp only [List.mem_range, beq_iff_eq, Bool.not_eq_true', beq_eq_false_iff_ne, ne_eq]
  constructor
  · rintro ⟨a, b, c⟩; exact ⟨b, a, c⟩
  · rintro ⟨a, b, c⟩; exact ⟨b, a, c⟩

theorem findLinear_none_iff (cmp : Nat → Ordering) (count : Nat) :
    findLinear cmp count = none ↔ ∀ i, i < count → cmp i ≠ .eq := by
  unfold findLinear
  rw [List.find?_range_eq_none]
  simp only [Bool.not_eq_true', beq_eq_false_iff_ne, ne_eq]

theorem findLinear_isSome_iff (cmp : Nat → Ordering) (count : Nat) :
    (findLinear cmp count).isSome ↔ ∃ i, i < count ∧ cmp i = .eq := by
  simp [findLinear, List.find?_isSome]

theorem find_agree_isSome (cmp : Nat → Ordering) (count : Nat) (hm : MonoCmp cmp count) :
    (findOrdered cmp count).isSome = (findLinear cmp count).isSome :=
  Bool.eq_iff_iff.2 ((findOrdered_isSome_iff cmp count hm).trans (findLinear_isSome_iff cmp count).symm)

theorem find_agree (cmp : Nat → Ordering) (count : Nat) (hm : MonoCmp cmp count)
    (hu : ∀ i j, i < count → j < count → cmp i = .eq → cmp j = .eq → i = j) :
    findOrdered cmp count = findLinear cmp count := by
  cases hl : findLinear cmp count with
  | none => exact (findOrdered_none_iff cmp count hm).2 ((findLinear_none_iff cmp count).1 hl)
  | some i =>
    obtain ⟨hi, he, -⟩ := (findLinear_some_iff cmp count i).1 hl
    obtain ⟨j, hj⟩ := Option.isSome_iff_exists.1 ((findOrdered_isSome_iff cmp count hm).2 ⟨i, hi, he⟩)
    obtain ⟨hjc, hje⟩ := findOrdered_sound cmp count j hj
    rw [hj, hu j i hjc hi hje he]

/-- the two order facts the comparator needs (`ord a b ≠ .gt` reads `a ≤ b`) -/
structure OrdLaws {α} (ord : α → α → Ordering) : Prop where
  le_lt_trans : ∀ a b c, ord a b ≠ .gt → ord b c = .lt → ord a c = .lt
  le_gt_trans : ∀ a b c, ord a b ≠ .gt → ord a c = .gt → ord b c = .gt

theorem ordLaws_nat : OrdLaws (fun (a b : Nat) => compare a b) where
  le_lt_trans := by
    intro a b c h1 h2
    simp only [ne_eq, Nat.compare_eq_gt, Nat.compare_eq_lt] at *
    omega
  le_gt_trans := by
    intro a b c h1 h2
    simp only [ne_eq, Nat.compare_eq_gt] at *
    omega

theorem probeCmp_mono {α} (ord : α → α → Ordering) (hl : OrdLaws ord) (keys : List α)
    (dflt probe : α) (hs : keys.Pairwise (fun a b => ord a b ≠ .gt)) :
    MonoCmp (probeCmp ord keys dflt probe) keys.length := by
  intro i j hij hj
  have hi : i < keys.length := by omega
  have hle : ord keys[i] keys[j] ≠ .gt := List.pairwise_iff_getElem.mp hs i j hi hj hij
  have ei : keys.getD i dflt = keys[i] := by simp [List.getD, hi]
  have ej : keys.getD j dflt = keys[j] := by simp [List.getD, hj]
  simp only [probeCmp, ei, ej]
  refine ⟨hl.le_gt_trans _ _ _ hle, ?_, hl.le_lt_trans _ _ _ hle⟩
  intro he hlt
  rw [hl.le_lt_trans _ _ _ hle hlt] at he
  cases he

theorem find_sorted {α} (ord : α → α → Ordering) (hl : OrdLaws ord) (keys : List α)
    (dflt probe : α) (hs : keys.Pairwise (fun a b => ord a b ≠ .gt)) :
    (∃ i, i < keys.length ∧ ord (keys.getD i dflt) probe = .eq) ↔
      (findOrdered (probeCmp ord keys dflt probe) keys.length).isSome :=
  (findOrdered_isSome_iff _ _ (probeCmp_mono ord hl keys dflt probe hs)).symm

/-- monotonicity restricts to any sub-window -/
theorem MonoCmp.window {cmp : Nat → Ordering} {count : Nat} (hm : MonoCmp cmp count)
    (off cnt : Nat) (h : off + cnt ≤ count) : MonoCmp (fun i => cmp (off + i)) cnt := by
  intro i j hij hj
  exact hm (off + i) (off + j) (by omega) (by omega)

end Jubako
