/-
Ties of the reader's parsers of a directory pack (`reader/directory_pack`) and of `ContentPack::get_content` to the
Rust bodies translated from the source on every run (Generated/FuncsParse.lean). Where the translation carries no
panic text the ties are up to it (`Outcome.Same`).
-/
import JubakoModel.Model.DirLayout
import JubakoModel.Model.ContentPack
import JubakoModel.Generated.FuncsParse
import JubakoModel.Lemmas.OutcomeLemmas
import JubakoModel.Lemmas.RawPropDecode
import JubakoModel.Lemmas.SrcByteSize
import JubakoModel.Lemmas.Slice

namespace Jubako

/-- the source's `RawProperty` (size, `enum PropertyKind`, name) of a property of the reader model -/
def RawProp.toSrcRaw (p : RawProp) : Nat × Generated.SrcPropertyKind × Bytes :=
  (p.size,
   (match p.kind with
    | .padding => .padding
    | .content ps cs d => .contentAddress ps cs d
    | .uint sz d => .unsignedInt sz d
    | .sint sz d => .signedInt sz d
    | .array l f dep dflt => .array l f dep dflt
    | .variantId => .variantId
    | .deportedInt signed sz store id =>
      let i : Generated.SrcDeportedDefault := match id with | .inl v => .value v | .inr k => .keySize k
      if signed then .deportedSignedInt sz store i else .deportedUnsignedInt sz store i),
   p.name)

theorem mod_lt_of_le {n m : Nat} (a : Nat) (hn : 0 < n) (h : n ≤ m) : a % n < m := Nat.lt_of_lt_of_le (Nat.mod_lt a hn) h

/-! The info byte of a property header is `16 * ty + d`: the source masks it (`& 0xF0`, `& 0x0F`, then the bits of
`d`), the model divides. -/

theorem bits_info : ∀ ty < 16, ∀ d < 16, (16 * ty + d) &&& 240 = 16 * ty ∧ (16 * ty + d) &&& 15 = d := by decide

theorem bits_d : ∀ d < 16, ((d &&& 4) >>> 2) = (d / 4) % 2 ∧ (d &&& 3) = d % 4 ∧ ((d &&& 8) ≠ 0 ↔ d / 8 = 1) ∧ (d &&& 7) = d % 8 := by
  decide

theorem bits_c (c : Nat) : c &&& 31 = c % 32 ∧ c >>> 5 = c / 32 ∧ c &&& 7 = c % 8 :=
  ⟨Nat.and_two_pow_sub_one_eq_mod c 5, Nat.shiftRight_eq_div_pow c 5, Nat.and_two_pow_sub_one_eq_mod c 3⟩

theorem info_masks (info : UInt8) :
    info.toNat &&& 240 = 16 * (info.toNat / 16) ∧ info.toNat &&& 15 = info.toNat % 16 := by
  have := bits_info (info.toNat / 16) (by have := info.toNat_lt; omega) (info.toNat % 16) (by omega)
  rwa [Nat.div_add_mod] at this

section
variable {info : UInt8} {rest : Bytes}

/-- The source's parser on `info :: rest` after its first two steps (read one byte, classify `info & 0xF0`), the
    type nibble being `ty`. Used by unification, so that nothing of the continuation `f` — the whole body of the
    parser, with the array arm four times — is visited before the `match` on the kind is reduced to one arm. -/
theorem rawPropertyParse_classify {α : Type} {ty : Nat} (r : Outcome Generated.SrcPropType) (h : info.toNat / 16 = ty)
    (hk : Generated.propTypeTryFrom (16 * ty) = r) {f : Generated.SrcPropType → Outcome α} {y : Outcome α}
    (hf : (r.bind f).Same y) : ((Generated.propTypeTryFrom (info.toNat &&& 240)).bind f).Same y := by
  rw [(info_masks info).1, h, hk]; exact hf

theorem rawPropertyParse_padding (h : info.toNat / 16 = 0) :
    (Generated.rawPropertyParse (info :: rest)).Same ((RawProp.decode (info :: rest)).map' (fun x => (x.1.toSrcRaw, x.2))) := by
  refine .of_bind_ok (takeLE_one info rest) (rawPropertyParse_classify (.ok .padding) h rfl ?_)
  -- `↓`: the rewrite must fire before `simp` descends into the continuation
  simp only [↓Outcome.bind_ok]
  rw [RawProp.decode_padding h, (info_masks info).2, Nat.mod_eq_of_lt (by omega : info.toNat % 16 < 65536)]
  rfl

theorem rawPropertyParse_content (h : info.toNat / 16 = 1) :
    (Generated.rawPropertyParse (info :: rest)).Same ((RawProp.decode (info :: rest)).map' (fun x => (x.1.toSrcRaw, x.2))) := by
  refine .of_bind_ok (takeLE_one info rest) (rawPropertyParse_classify (.ok .contentAddress) h rfl ?_)
  simp only [↓Outcome.bind_ok]
  have hd : info.toNat % 16 < 16 := Nat.mod_lt _ (by decide)
  rw [RawProp.decode_content h, (info_masks info).2]
  generalize info.toNat % 16 = d at hd ⊢
  obtain ⟨d1, d2, d3, -⟩ := bits_d d hd
  have hp : d / 4 % 2 < 8 := mod_lt_of_le _ (by decide) (by decide)
  have hc : d % 4 < 8 := mod_lt_of_le _ (by decide) (by decide)
  simp only [d1, d2, byteSize_succ hp, byteSize_succ hc, Outcome.bind_ok,
    Nat.mod_eq_of_lt (Nat.lt_trans hc (by decide) : d % 4 < 65536),
    Nat.mod_eq_of_lt (Nat.lt_trans (Nat.succ_lt_succ hp) (by decide) : d / 4 % 2 + 1 < 65536)]
  by_cases h8 : d / 8 = 1
  · simp [h8, d3.mpr h8, Outcome.map'_bind, RawProp.toSrcRaw]
  · simp [h8, mt d3.mp h8, Outcome.map'_bind, RawProp.toSrcRaw]

theorem rawPropertyParse_int (h : info.toNat / 16 = 2 ∨ info.toNat / 16 = 3) :
    (Generated.rawPropertyParse (info :: rest)).Same ((RawProp.decode (info :: rest)).map' (fun x => (x.1.toSrcRaw, x.2))) := by
  have hd : info.toNat % 16 < 16 := Nat.mod_lt _ (by decide)
  refine .of_bind_ok (takeLE_one info rest) ?_
  rw [RawProp.decode_int h]
  rcases h with h | h
  case' inl => refine rawPropertyParse_classify (.ok .unsignedInt) h rfl ?_
  case' inr => refine rawPropertyParse_classify (.ok .signedInt) h rfl ?_
  all_goals
    simp only [↓Outcome.bind_ok]
    rw [(info_masks info).2]
    generalize info.toNat % 16 = d at hd ⊢
    obtain ⟨-, -, d3, d4⟩ := bits_d d hd
    have hs : d % 8 < 8 := Nat.mod_lt _ (by decide)
    have hm := Nat.mod_eq_of_lt (Nat.lt_trans (Nat.succ_lt_succ hs) (by decide) : d % 8 + 1 < 65536)
    simp only [d4, byteSize_succ hs, Outcome.bind_ok, h]
    by_cases h8 : d / 8 = 1
    · simp [h8, d3.mpr h8, Outcome.map'_bind, RawProp.toSrcRaw, Generated.takeLEs, Outcome.bind_assoc']
    · simp [h8, mt d3.mp h8, Outcome.map'_bind, RawProp.toSrcRaw, hm]

theorem rawPropertyParse_todo (h : info.toNat / 16 = 4) :
    (Generated.rawPropertyParse (info :: rest)).Same ((RawProp.decode (info :: rest)).map' (fun x => (x.1.toSrcRaw, x.2))) := by
  refine .of_bind_ok (takeLE_one info rest) (rawPropertyParse_classify (.panic "") h rfl ?_)
  rw [RawProp.decode_todo h]
  exact Outcome.Same.panic _ _

theorem rawPropertyParse_array (h : info.toNat / 16 = 5) :
    (Generated.rawPropertyParse (info :: rest)).Same ((RawProp.decode (info :: rest)).map' (fun x => (x.1.toSrcRaw, x.2))) := by
  refine .of_bind_ok (takeLE_one info rest) (rawPropertyParse_classify (.ok .array) h rfl ?_)
  simp only [↓Outcome.bind_ok]
  have hd : info.toNat % 16 < 16 := Nat.mod_lt _ (by decide)
  rw [(info_masks info).2]
  cases rest with
  | nil =>
    rw [RawProp.decode_array_nil h, (bits_d _ hd).2.1]
    have e : takeLE [] 1 = .err .format := rfl
    by_cases h4 : info.toNat % 16 % 4 = 0
    · simp only [h4, ne_eq, not_true_eq_false, if_false, e]; rfl
    · rw [if_pos h4, byteSize_ok h4 (Nat.le_of_lt (mod_lt_of_le _ (by decide) (by decide)))]; rfl
  | cons c r1 =>
    rw [RawProp.decode_array h]
    generalize info.toNat % 16 = d at hd ⊢
    obtain ⟨-, d2, d3, -⟩ := bits_d d hd
    obtain ⟨c1, c2, -⟩ := bits_c c.toNat
    simp only [d2, takeLE_one, ↓Outcome.bind_ok, c1, c2]
    have hl : d % 4 ≤ 8 := Nat.le_of_lt (mod_lt_of_le d (by decide) (by decide))
    have hk8 : c.toNat / 32 ≤ 8 := by have := c.toNat_lt; omega
    have ml : d % 4 % 65536 = d % 4 := Nat.mod_eq_of_lt (mod_lt_of_le d (by decide) (by decide))
    have mf : c.toNat % 32 % 65536 = c.toNat % 32 := Nat.mod_eq_of_lt (mod_lt_of_le _ (by decide) (by decide))
    have mk : c.toNat / 32 % 65536 = c.toNat / 32 := Nat.mod_eq_of_lt (by omega)
    -- length field or not, value store or not, default or not: each choice picks one copy of the array tail
    by_cases h4 : d % 4 = 0 <;> by_cases hk : c.toNat / 32 = 0 <;> by_cases h8 : d / 8 = 1 <;>
      simp [h4, hk, h8, d3, byteSize_ok, hl, hk8, ml, mf, mk, Outcome.map'_bind, Outcome.bind_assoc', RawProp.toSrcRaw,
        Generated.unwrapOpt, Outcome.Same.bind_right_iff]

theorem rawPropertyParse_variantId (h : info.toNat / 16 = 8) :
    (Generated.rawPropertyParse (info :: rest)).Same ((RawProp.decode (info :: rest)).map' (fun x => (x.1.toSrcRaw, x.2))) := by
  refine .of_bind_ok (takeLE_one info rest) (rawPropertyParse_classify (.ok .variantId) h rfl ?_)
  simp only [↓Outcome.bind_ok]
  rw [RawProp.decode_variantId h]
  simp [Outcome.map'_bind, RawProp.toSrcRaw]

theorem rawPropertyParse_deported (h : info.toNat / 16 = 10 ∨ info.toNat / 16 = 11) :
    (Generated.rawPropertyParse (info :: rest)).Same ((RawProp.decode (info :: rest)).map' (fun x => (x.1.toSrcRaw, x.2))) := by
  have hd : info.toNat % 16 < 16 := Nat.mod_lt _ (by decide)
  refine .of_bind_ok (takeLE_one info rest) ?_
  rw [RawProp.decode_deported h]
  rcases h with h | h
  case' inl => refine rawPropertyParse_classify (.ok .deportedUnsignedInt) h rfl ?_
  case' inr => refine rawPropertyParse_classify (.ok .deportedSignedInt) h rfl ?_
  all_goals
    simp only [↓Outcome.bind_ok]
    rw [(info_masks info).2]
    generalize info.toNat % 16 = d at hd ⊢
    obtain ⟨-, -, d3, d4⟩ := bits_d d hd
    have hk : ∀ x : Nat, x % 8 < 8 := fun x => Nat.mod_lt _ (by decide)
    have hm : ∀ x : Nat, (x % 8 + 1) % 65536 = x % 8 + 1 := fun x =>
      Nat.mod_eq_of_lt (Nat.lt_trans (Nat.succ_lt_succ (hk x)) (by decide))
    by_cases h8 : d / 8 = 1 <;>
      simp [h, h8, d3, d4, byteSize_succ (hk _), hm, Nat.and_two_pow_sub_one_eq_mod _ 3, Outcome.map'_bind, RawProp.toSrcRaw]

theorem rawPropertyParse_unknown
    (h : info.toNat / 16 = 6 ∨ info.toNat / 16 = 7 ∨ info.toNat / 16 = 9 ∨ info.toNat / 16 = 12 ∨ info.toNat / 16 = 13 ∨
      info.toNat / 16 = 14 ∨ info.toNat / 16 = 15) :
    (Generated.rawPropertyParse (info :: rest)).Same ((RawProp.decode (info :: rest)).map' (fun x => (x.1.toSrcRaw, x.2))) := by
  refine .of_bind_ok (takeLE_one info rest) ?_
  rw [RawProp.decode_unknown h]
  rcases h with h | h | h | h | h | h | h <;> exact rawPropertyParse_classify (.err .format) h rfl .rfl

end

/-- **`RawProperty::parse` translated on every run is `RawProp.decode` of the reader model**, on every byte
    string: the same property (size in the entry, kind with all its fields, name), the same unread rest, and
    the same kind of failure — a format error where bytes are missing or the type nibble is unknown, a panic
    exactly at `todo!()` (type `0b0100`) and at `array_len_size.unwrap()` (a default array without length
    field). -/
theorem gen_rawPropertyParse (bs : Bytes) :
    (Generated.rawPropertyParse bs).Same ((RawProp.decode bs).map' (fun x => (x.1.toSrcRaw, x.2))) := by
  cases bs with
  | nil => rfl
  | cons info rest =>
    have := info.toNat_lt
    have : info.toNat / 16 = 0 ∨ info.toNat / 16 = 1 ∨ (info.toNat / 16 = 2 ∨ info.toNat / 16 = 3) ∨ info.toNat / 16 = 4 ∨
        info.toNat / 16 = 5 ∨ info.toNat / 16 = 8 ∨ (info.toNat / 16 = 10 ∨ info.toNat / 16 = 11) ∨
        (info.toNat / 16 = 6 ∨ info.toNat / 16 = 7 ∨ info.toNat / 16 = 9 ∨ info.toNat / 16 = 12 ∨ info.toNat / 16 = 13 ∨
          info.toNat / 16 = 14 ∨ info.toNat / 16 = 15) := by omega
    rcases this with h | h | h | h | h | h | h | h
    · exact rawPropertyParse_padding h
    · exact rawPropertyParse_content h
    · exact rawPropertyParse_int h
    · exact rawPropertyParse_todo h
    · exact rawPropertyParse_array h
    · exact rawPropertyParse_variantId h
    · exact rawPropertyParse_deported h
    · exact rawPropertyParse_unknown h

/-- the three lookups of `get_content` in the reader model: the content-info table entry, the cluster
    (tail parsed, start of its payload), a blob of the cluster (decompressed first when needed) -/
def modelInfoAt (f : Bytes) (ch : ContentHeader) (i : Nat) : Outcome (Nat × Nat) := do
  let infoTable ← readBlock f ch.contentPtrPos (4 * ch.contentCount)
  .ok (contentInfoDecode (slice infoTable (4 * i) 4))

def modelGetCluster (f : Bytes) (ch : ContentHeader) (cl : Nat) : Outcome (ClusterTail × Nat) := do
  let ptrTable ← readBlock f ch.clusterPtrPos (8 * ch.clusterCount)
  clusterAt f (sizedOffsetDecode (slice ptrTable (8 * cl) 8))

def modelGetBytes (decompress : Nat → Bytes → Option Bytes) (f : Bytes) (c : ClusterTail × Nat) (blob : Nat) : Outcome Bytes :=
  let payload := slice f c.2 c.1.rawSize
  if c.1.comp = 0 then blobOf c.1 payload blob
  else
    match decompress c.1.comp payload with
    | none => .err .io
    | some plain => blobOf c.1 (plain.take c.1.dataSize) blob

/-- **The order of checks and lookups of `ContentPack::get_content` translated on every run is the reader
    model's**: an index beyond the content count answers "no such content" before anything is read; the
    content-info entry is read; a cluster index beyond the cluster count is a format error; then the cluster is
    located and parsed, then the blob is cut out of it. -/
theorem gen_contentGet (decompress : Nat → Bytes → Option Bytes) (f : Bytes) (i : Nat) :
    contentGet decompress f i =
      (contentOpen f).bind fun o =>
        Generated.contentPackGetContent o.2.contentCount o.2.clusterCount (modelInfoAt f o.2) (modelGetCluster f o.2)
          (modelGetBytes decompress f) i := by
  unfold contentGet Generated.contentPackGetContent modelInfoAt modelGetCluster modelGetBytes
  simp only [bind]
  refine Outcome.bind_congr fun o _ => ?_
  simp only [Generated.idxIsValid, decide_eq_true_eq, Nat.not_lt, ge_iff_le]
  by_cases h : o.2.contentCount ≤ i
  · simp [h]
  · simp only [h, if_false, Outcome.bind_assoc', Outcome.bind_ok]
    refine Outcome.bind_congr fun infoTable _ => ?_
    split
    · rfl
    · refine Outcome.bind_congr fun ptrTable _ => Outcome.bind_congr fun r2 _ => ?_
      split
      · rfl
      · cases decompress r2.1.comp (slice f r2.2 r2.1.rawSize) <;> simp

theorem rawLayoutParse_loop_same (k : Nat) : ∀ (bs : Bytes) (acc : List RawProp),
    ((Generated.rawLayoutParse_loop bs (acc.reverse.map RawProp.toSrcRaw) k).map' (·.1)).Same
      ((rawLayoutDecode.go k bs acc).map' (List.map RawProp.toSrcRaw)) := by
  induction k with
  | zero => intro bs acc; exact .rfl
  | succ k ih =>
    intro bs acc
    unfold Generated.rawLayoutParse_loop rawLayoutDecode.go
    rw [Outcome.map'_bind]
    refine .trans (.bind (gen_rawPropertyParse bs) fun _ => .rfl) ?_
    rw [Outcome.bind_map']
    refine .trans ?_ (.of_eq (Outcome.map'_bind ..).symm)
    refine .bind .rfl fun x => ?_
    simpa using ih x.2 (x.1 :: acc)

/-- **`RawLayout::parse` translated on every run (count byte, then that many properties, each by the translated
    `RawProperty::parse`) is `rawLayoutDecode` of the reader model** on every byte string — including
    termination of the loop, which recurses on the count. -/
theorem gen_rawLayoutParse (bs : Bytes) :
    ((Generated.rawLayoutParse bs).map' (·.1)).Same ((rawLayoutDecode bs).map' (List.map RawProp.toSrcRaw)) := by
  cases bs with
  | nil => rfl
  | cons n rest =>
    refine .trans (.of_eq ?_) (rawLayoutParse_loop_same n.toNat rest [])
    unfold Generated.rawLayoutParse
    rw [takeLE_one, Outcome.bind_ok]
    exact congrArg _ (Outcome.bind_ok_right _)

/-! ### `PropertyBuilderTrait::create` (`reader/directory_pack/builder/property.rs`), kind by kind -/

/-- the source's special cases for key widths 1, 2, 4 and 8 do what its general case does -/
theorem intCreate_deported (e : Bytes) (off sz ks st : Nat) (g : Nat → Nat → Option Nat → Outcome Bytes) :
    Generated.intPropertyCreate e off sz none (some (ks, st)) g =
      (entryLE e off ks).bind fun key => (g st key (some (sz % 256))).bind fun data =>
        Generated.unwrapped ((takeLE data sz).bind fun x => .ok x.1) := by
  unfold Generated.intPropertyCreate; dsimp only; split <;> simp only [Outcome.bind_ok_right]

theorem signedCreate_deported (e : Bytes) (off sz ks st : Nat) (g : Nat → Nat → Option Nat → Outcome Bytes) :
    Generated.signedPropertyCreate e off sz none (some (ks, st)) g =
      (entryLE e off ks).bind fun key => (g st key (some (sz % 256))).bind fun data =>
        Generated.unwrapped ((Generated.takeLEs data sz).bind fun x => .ok x.1) := by
  unfold Generated.signedPropertyCreate; dsimp only; split <;> simp only [Outcome.bind_ok_right]

/-- `IntProperty::create`, stored in the entry or defaulted -/
theorem gen_intPropertyCreate (stores : Nat → Outcome (ValueStoreTail × Bytes)) (e : Bytes) (off sz : Nat) (nm : Bytes)
    (dflt : Option Nat) (g : Nat → Nat → Option Nat → Outcome Bytes) :
    (Generated.intPropertyCreate e off sz dflt none g).map' Val.u = decodeProp stores e ⟨off, nm, .uint sz dflt⟩ := by
  cases dflt with
  | some d => rfl
  | none =>
    unfold Generated.intPropertyCreate; dsimp only
    split <;> rw [Outcome.bind_ok_right, Outcome.map'_eq_bind] <;> rfl

/-- `SignedProperty::create`, stored in the entry or defaulted -/
theorem gen_signedPropertyCreate (stores : Nat → Outcome (ValueStoreTail × Bytes)) (e : Bytes) (off sz : Nat) (nm : Bytes)
    (dflt : Option Int) (g : Nat → Nat → Option Nat → Outcome Bytes) :
    (Generated.signedPropertyCreate e off sz dflt none g).map' Val.s = decodeProp stores e ⟨off, nm, .sint sz dflt⟩ := by
  cases dflt with
  | some d => rfl
  | none =>
    unfold Generated.signedPropertyCreate; dsimp only
    split <;> rw [Outcome.bind_ok_right, Generated.entryLEs, Outcome.map'_bind] <;> rfl

/-- `ContentProperty::create`, a sequential parser opened at the property's offset, for the widths a header can
    hold -/
theorem gen_contentPropertyCreate (stores : Nat → Outcome (ValueStoreTail × Bytes)) (e : Bytes) (off ps cs : Nat) (nm : Bytes)
    (dflt : Option Nat) (hps : 1 ≤ ps) (hcs : 1 ≤ cs) (hcs4 : cs ≤ 4) :
    (Generated.contentPropertyCreate (e.drop off) dflt ps cs).map' (fun x => Val.content x.1.1 x.1.2) =
      decodeProp stores e ⟨off, nm, .content ps cs dflt⟩ := by
  have hmod : ∀ o v, entryLE e o cs = .ok v → v % 4294967296 = v := fun o v h => by
    obtain ⟨hb, rfl⟩ := entryLE_eq_ok.mp h
    have h1 := leNat_lt (slice e o cs)
    have : 256 ^ (slice e o cs).length ≤ 256 ^ 4 := Nat.pow_le_pow_right (by omega) (by rw [slice_length hb]; exact hcs4)
    exact Nat.mod_eq_of_lt (by omega)
  unfold Generated.contentPropertyCreate decodeProp
  cases dflt with
  | none =>
    simp only [Outcome.bind_ok, bind, takeLE_pos e off ps hps, takeLE_pos e (off + ps) cs hcs, ← entryLE_eq_readUN,
      Outcome.bind_assoc', Outcome.map'_bind, Outcome.map'_ok]
    refine Outcome.bind_congr fun pk _ => Outcome.bind_congr fun c h2 => ?_
    rw [hmod _ _ h2]
  | some d =>
    simp only [Outcome.bind_ok, bind, takeLE_pos e off cs hcs, ← entryLE_eq_readUN, Outcome.bind_assoc', Outcome.map'_bind,
      Outcome.map'_ok]
    refine Outcome.bind_congr fun c h2 => ?_
    rw [hmod _ _ h2]

/-- every `.ok` arm of `valueStoreGet` returns `slice data start sz` after testing `start + sz ≤ data.length` -/
theorem valueStoreGet_length (vs : ValueStoreTail × Bytes) (id sz : Nat) (data : Bytes)
    (h : valueStoreGet vs id (some sz) = .ok data) : data.length = sz := by
  obtain ⟨t, d⟩ := vs
  unfold valueStoreGet at h
  simp only at h
  split at h
  · split at h
    · simp at h
    · split at h
      · rename_i hb
        simp only [Outcome.ok.injEq] at h
        subst h
        exact slice_length hb
      · simp at h
  · split at h
    · rename_i hb
      simp only [Outcome.ok.injEq] at h
      subst h
      exact slice_length hb
    · simp at h

theorem unwrapped_takeLE_full (data : Bytes) (sz : Nat) (h : data.length = sz) :
    Generated.unwrapped ((takeLE data sz).bind fun x => .ok x.1) = .ok (leNat data) := by
  unfold takeLE
  simp [h.symm, Generated.unwrapped]

/-- `IntProperty::create` / `SignedProperty::create` on deported integers (the entry holds a key into a value
    store), given the store the property was built with -/
theorem gen_deportedIntCreate (stores : Nat → Outcome (ValueStoreTail × Bytes)) (vs : ValueStoreTail × Bytes)
    (e : Bytes) (off sz ks store : Nat) (nm : Bytes) (hs : stores store = .ok vs) (hsz : sz < 256) :
    (Generated.intPropertyCreate e off sz none (some (ks, store)) (fun _ key size => valueStoreGet vs key size)).map' Val.u =
      decodeProp stores e ⟨off, nm, .deportedInt false sz store (.inr ks)⟩ := by
  unfold decodeProp
  simp only [intCreate_deported, bind, hs, Outcome.bind_ok, Nat.mod_eq_of_lt hsz, Outcome.map'_bind]
  refine Outcome.bind_congr fun key _ => Outcome.bind_congr fun data h2 => ?_
  rw [unwrapped_takeLE_full data sz (valueStoreGet_length vs key sz data h2)]; rfl

theorem unwrapped_takeLEs_full (data : Bytes) (sz : Nat) (h : data.length = sz) :
    Generated.unwrapped ((Generated.takeLEs data sz).bind fun x => .ok x.1) = .ok (signExtend (leNat data) sz) := by
  unfold Generated.takeLEs takeLE
  simp [h.symm, Generated.unwrapped]

theorem gen_deportedSignedCreate (stores : Nat → Outcome (ValueStoreTail × Bytes)) (vs : ValueStoreTail × Bytes)
    (e : Bytes) (off sz ks store : Nat) (nm : Bytes) (hs : stores store = .ok vs) (hsz : sz < 256) :
    (Generated.signedPropertyCreate e off sz none (some (ks, store)) (fun _ key size => valueStoreGet vs key size)).map' Val.s =
      decodeProp stores e ⟨off, nm, .deportedInt true sz store (.inr ks)⟩ := by
  unfold decodeProp
  simp only [signedCreate_deported, bind, hs, Outcome.bind_ok, Nat.mod_eq_of_lt hsz, Outcome.map'_bind]
  refine Outcome.bind_congr fun key _ => Outcome.bind_congr fun data h2 => ?_
  rw [unwrapped_takeLEs_full data sz (valueStoreGet_length vs key sz data h2)]; rfl

/-- `ArrayProperty::create` followed by the model's `Array::resolve_to_vec`, for a property lying inside the entry,
    a length field of at most 3 bytes (the source asserts it) and a non-empty key -/
theorem gen_arrayPropertyCreate (stores : Nat → Outcome (ValueStoreTail × Bytes)) (e : Bytes) (off : Nat) (nm : Bytes)
    (lenSize : Option Nat) (fixedLen : Nat) (dep : Option (Nat × Nat)) (dflt : Option (Nat × Bytes × Option Nat))
    (hoff : off ≤ e.length) (hl : ∀ l, lenSize = some l → 1 ≤ l ∧ l ≤ 3) (hd : ∀ ks st, dep = some (ks, st) → 1 ≤ ks) :
    ((Generated.arrayPropertyCreate (e.drop off) lenSize fixedLen dep dflt).bind fun r =>
        (resolveArray stores r.1 r.2.1 fixedLen r.2.2).map' Val.arr).Same
      (decodeProp stores e ⟨off, nm, .array lenSize fixedLen dep dflt⟩) := by
  unfold Generated.arrayPropertyCreate decodeProp
  rcases dflt with _ | ⟨sz, fixed, kid⟩
  · simp only [Outcome.bind_ok, bind, pure]
    -- the sequential reads on `e.drop off` become positional reads of `e`; the bound of `takeBytes` is the model's
    -- `off + ls + fixedLen ≤ e.length`
    rcases lenSize with _ | l
    · by_cases hb : off + fixedLen ≤ e.length
      · rcases dep with _ | ⟨ks, st⟩
        · simp [takeBytes_drop e off fixedLen (.inr hoff), hb, Outcome.map'_eq_bind]
        · simp [takeBytes_drop e off fixedLen (.inr hoff), hb, takeLE_pos e _ ks (hd ks st rfl), ← entryLE_eq_readUN,
            Outcome.bind_assoc', Outcome.map'_eq_bind]
      · simp [takeBytes_drop e off fixedLen (.inr hoff), hb]
    · obtain ⟨hl1, hl3⟩ := hl l rfl
      simp only [if_pos (by omega : l % 256 ≤ 3), takeLE_pos e off l hl1, ← entryLE_eq_readUN, Outcome.bind_assoc', Outcome.bind_ok]
      refine .bind_right fun sz h1 => ?_
      have tb := takeBytes_drop e (off + l) fixedLen (.inr (entryLE_eq_ok.mp h1).1)
      by_cases hb : off + l + fixedLen ≤ e.length
      · rcases dep with _ | ⟨ks, st⟩
        · simp [tb, hb, Outcome.map'_eq_bind]
        · simp [tb, hb, takeLE_pos e _ ks (hd ks st rfl), ← entryLE_eq_readUN, Outcome.bind_assoc', Outcome.map'_eq_bind]
      · simp [tb, hb]
  · rcases dep with _ | ⟨ks, st⟩
    · simp [bind, Outcome.map'_eq_bind]
    · cases kid <;> simp [bind, Generated.unwrapOpt, Outcome.map'_eq_bind]

/-- `IndexHeader::parse` (`reader/directory_pack/index.rs`), on every byte string -/
theorem gen_indexHeaderParse (bs : Bytes) :
    (Generated.indexHeaderParse bs).map' (fun r => (⟨r.1.1, r.1.2.1, r.1.2.2.1, r.1.2.2.2.1, r.1.2.2.2.2.1, r.1.2.2.2.2.2⟩ : IndexInfo)) =
      IndexInfo.decode bs := by
  unfold Generated.indexHeaderParse IndexInfo.decode
  simp only [bind, Outcome.map'_bind, Outcome.map'_ok]

/-- `Layout.decode` is cut where the properties are split into common part and variants: `layoutHead`, then `layoutRest` -/
def layoutHead (bs : Bytes) : Outcome (Nat × Bool × Nat × Nat × List RawProp) :=
  (takeLE bs 4).bind fun a => (takeLE a.2 1).bind fun b => (takeLE b.2 2).bind fun c => (takeLE c.2 1).bind fun d =>
    (rawLayoutDecode d.2).bind fun raw => .ok (a.1, decide (b.1 % 2 = 1), c.1, d.1, raw)

/-- **The head of `Layout::parse` is the head of the model's `Layout.decode`**: entry count (4 bytes), the flag
    byte whose lowest bit says whether every entry carries its own CRC, the entry size (2 bytes), the variant
    count, then the property list by the (translated) `RawLayout::parse` — translated on every run from the
    statements that precede the splitting into common part and variants. -/
theorem gen_layoutParseHead (bs : Bytes) :
    ((Generated.layoutParseHead bs).map' (fun r => (r.1.1, r.1.2.1, r.1.2.2.1, r.1.2.2.2.1, r.1.2.2.2.2))).Same
      ((layoutHead bs).map' (fun h => (h.1, h.2.1, h.2.2.1, h.2.2.2.1, h.2.2.2.2.map RawProp.toSrcRaw))) := by
  unfold Generated.layoutParseHead layoutHead
  simp only [Outcome.map'_bind]
  refine .bind .rfl fun a => .bind .rfl fun b => .bind .rfl fun c => .bind .rfl fun d =>
    .bind_of_map' (gen_rawLayoutParse d.2) fun x raw hx => ?_
  -- the flag: the source tests the lowest bit, the model the parity
  have hflag : ∀ n : Nat, decide ((n &&& 1) ≠ 0) = decide (n % 2 = 1) := fun n => by
    rw [Nat.and_one_is_mod]
    rcases Nat.mod_two_eq_zero_or_one n with h | h <;> simp [h]
  simp only [Outcome.map'_ok, hflag, hx, Outcome.Same.rfl]

def layoutRest (h : Nat × Bool × Nat × Nat × List RawProp) : Outcome Layout :=
  let entryCount := h.1
  let checked := h.2.1
  let entrySize := h.2.2.1
  let variantCount := h.2.2.2.1
  let raw := h.2.2.2.2
  let commonRaw := raw.takeWhile (fun p => !isVariantId p)
  let restRaw := raw.dropWhile (fun p => !isVariantId p)
  let commonSize := (commonRaw.map (·.size)).sum
  let common := placeProps 0 commonRaw
  if variantCount ≠ 0 then
    if entrySize < commonSize + 1 then .panic "layout/mod.rs: entry_size - common_size underflow"
    else
      (splitVariants (entrySize - (commonSize + 1)) (commonSize + 1) restRaw none []).bind fun vs =>
        if vs.length ≠ variantCount then .err .format
        else .ok ⟨entryCount, checked, entrySize, common, some commonSize, vs⟩
  else .ok ⟨entryCount, checked, entrySize, common, none, []⟩

theorem layoutDecode_head (bs : Bytes) : Layout.decode bs = (layoutHead bs).bind layoutRest := by
  unfold Layout.decode layoutHead layoutRest
  simp only [bind, Outcome.bind_assoc', Outcome.bind_ok]

end Jubako
