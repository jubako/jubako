/- The framed pack (`framePack`, Model/Pack.lean) as every reader sees it: its header, its length, and the
   verdict of `Pack::check` on it. -/
import JubakoModel.Model.Open
import JubakoModel.Lemmas.Codec

namespace Jubako

/-- the CRC-checked header parse every open function starts with; Model/Container.lean writes it out in `blindOpen`, in
    `containerOpen` (its `isManifest`) and in `packsCheck` -/
def packHeaderOf (b : Bytes) : Outcome PackHeader := readBlock b 0 60 >>= fun hd => PackHeader.decode hd

/-- What the creators record in the header of every content, directory and manifest pack (a container pack stores no
    hash: `+ 5 + 64`, `containerPackWrite`).  `64` is `PackHeader::BLOCK_SIZE` (60 bytes and CRC: header
    block and mirrored tail), `37` is `CheckKind::Blake3.block_size()` (`common/check.rs`: kind byte, 32-byte
    hash, CRC). -/
structure PackHeader.Frames (h : PackHeader) (body : Bytes) : Prop where
  wf : h.WF
  ver : h.major = Consts.versionGateMajor ∧ h.minor = Consts.versionGateMinor
  cip : h.checkInfoPos = 64 + body.length
  size : h.packSize = h.checkInfoPos + 37 + 64

theorem framePack_eq (Hw mask : Bytes → Bytes) (h : PackHeader) (body : Bytes) :
    framePack Hw mask h body =
      block h.encode ++ (body ++ (block (CheckInfo.blake3 (Hw (mask (block h.encode ++ body)))).encode ++
        (block h.encode).reverse)) := by
  simp only [framePack, packTail, List.append_assoc]

variable {Hw mask : Bytes → Bytes} {h : PackHeader} {body : Bytes}

theorem framePack_length_of_WF (hw : h.WF) (hH : ∀ x, (Hw x).length = 32) :
    (framePack Hw mask h body).length = 64 + body.length + 37 + 64 := by
  simp only [framePack_eq, List.length_append, List.length_reverse, block_length,
    PackHeader.encode_length h hw, CheckInfo.encode, List.length_cons, hH]
  omega

theorem framePack_length (F : h.Frames body) (hH : ∀ x, (Hw x).length = 32) :
    (framePack Hw mask h body).length = h.packSize := by
  rw [framePack_length_of_WF F.wf hH, F.size, F.cip]

theorem readBlock_framePack_header (hw : h.WF) :
    readBlock (framePack Hw mask h body) 0 60 = .ok h.encode := by
  rw [framePack_eq]
  exact readBlock_block_head (PackHeader.encode_length h hw)

theorem PackHeader.Frames.prefix_length (F : h.Frames body) : (block h.encode ++ body).length = h.checkInfoPos := by
  rw [List.length_append, block_length, PackHeader.encode_length h F.wf, F.cip]

theorem readBlock_framePack_check (F : h.Frames body) (hH : ∀ x, (Hw x).length = 32) :
    readBlock (framePack Hw mask h body) h.checkInfoPos 33 =
      .ok (CheckInfo.blake3 (Hw (mask (block h.encode ++ body)))).encode := by
  rw [framePack_eq, ← List.append_assoc]
  exact readBlock_block_at F.prefix_length (by simp only [CheckInfo.encode, List.length_cons, hH])

theorem framePack_take (F : h.Frames body) :
    (framePack Hw mask h body).take h.checkInfoPos = block h.encode ++ body := by
  rw [framePack_eq, ← List.append_assoc]
  exact List.take_left' F.prefix_length

theorem packHeaderOf_frame (F : h.Frames body) :
    packHeaderOf (framePack Hw mask h body) = .ok h := by
  rw [packHeaderOf, readBlock_framePack_header F.wf, Outcome.ok_bind, PackHeader.decode_encode h F.wf F.ver]

theorem packCheckParts_framePack (F : h.Frames body) (hH : ∀ x, (Hw x).length = 32) :
    packCheckParts (framePack Hw mask h body) =
      .ok (h.checkInfoPos, .blake3 (Hw (mask (block h.encode ++ body)))) := by
  have hsize : h.checkInfoSize = some 33 := by
    have := F.size
    rw [PackHeader.checkInfoSize, if_pos (by omega)]; exact congrArg some (by omega)
  exact packCheckParts_of_blocks (readBlock_framePack_header F.wf) (PackHeader.decode_encode h F.wf F.ver) hsize
    (readBlock_framePack_check F hH) (CheckInfo.decode_encode _ (by intro x hx; cases hx; exact hH _))

/-- `H` is the reader's hash, `Hw` the one the pack was sealed with; `c04_created_verifies` is the case `H = Hw` -/
theorem packCheck_framePack (H : Bytes → Bytes) (F : h.Frames body) (hH : ∀ x, (Hw x).length = 32) :
    packCheck H mask (framePack Hw mask h body) =
      .ok (H (mask (block h.encode ++ body)) == Hw (mask (block h.encode ++ body))) := by
  rw [packCheck_of_parts (packCheckParts_framePack F hH)
    (by rw [framePack_length_of_WF F.wf hH, F.cip]; omega), framePack_take F]

theorem packCheck_framePack_self (F : h.Frames body) (hH : ∀ x, (Hw x).length = 32) :
    packCheck Hw mask (framePack Hw mask h body) = .ok true := by
  rw [packCheck_framePack Hw F hH, beq_self_eq_true]

theorem openHeader_of_block {f : Bytes} (h : PackHeader) (hh : readBlock f 0 60 = .ok h.encode)
    (hw : h.WF) (hv : h.major = Consts.versionGateMajor ∧ h.minor = Consts.versionGateMinor) :
    openHeader f h.kind = .ok h := by
  unfold openHeader
  rw [hh, Outcome.ok_bind, PackHeader.decode_encode h hw hv, Outcome.ok_bind, if_pos rfl]

theorem openHeader_block (h : PackHeader) (post : Bytes) (hw : h.WF)
    (hv : h.major = Consts.versionGateMajor ∧ h.minor = Consts.versionGateMinor) :
    openHeader (block h.encode ++ post) h.kind = .ok h :=
  openHeader_of_block h (readBlock_block_head (PackHeader.encode_length h hw)) hw hv

end Jubako
