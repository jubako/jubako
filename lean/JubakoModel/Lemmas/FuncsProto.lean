/-
The shape of the accesses to the shared file extracted from `bases/io/file.rs` on every run
(Generated/FuncsProto.lean) is the shape the protocol theorem is about.
-/
import JubakoModel.Model.FileCursor
import JubakoModel.Generated.FuncsProto

namespace Jubako

/-- `FileSource::read`, `FileSource::read_exact` and the small-block arm of `FileSource::cut` -/
theorem gen_fileSourceProto :
    Generated.fileSourceReadProto = atomicAccess ∧ Generated.fileSourceReadExactProto = atomicAccess ∧
    Generated.fileSourceCutSmallProto = atomicAccess :=
  ⟨rfl, rfl, rfl⟩

end Jubako
