/-
Ties of the byte primitives of Model/Bytes.lean to the Rust bodies translated from the source on every run
(Generated/FuncsBytes.lean). In all `Funcs*` files a tie `gen_x` says `Generated.f = model function`, or the byte
image of it (`writesBytes`), for all inputs: a change of the Rust body breaks its proof.
-/
import JubakoModel.Generated.FuncsBytes
import JubakoModel.Lemmas.Codec

namespace Jubako

theorem gen_neededBytes_loop (fuel v nb : Nat) (h : v < fuel) :
    Generated.neededBytes_loop v nb fuel = some (max (nb + digits256 fuel v) 1) := by
  fun_induction Generated.neededBytes_loop v nb fuel with
  | case1 => omega
  | case2 v nb fuel hv v' nb' ih =>
    have hv' : v' = v / 256 := Nat.shiftRight_eq_div_pow v 8
    rw [ih (by omega), digits256, if_neg (Nat.ne_of_gt hv), hv']
    congr 2
    omega
  | case3 v nb fuel hv =>
    obtain rfl : v = 0 := by omega
    rw [digits256, if_pos rfl]
    rfl

/-- `bases/mod.rs::needed_bytes`; `some`: its loop terminates on every input -/
theorem gen_neededBytes (v : Nat) : Generated.neededBytes v = some (neededBytes v) := by
  unfold Generated.neededBytes
  rw [gen_neededBytes_loop (v + 1) v 0 (by omega)]
  simp [neededBytes, Nat.max_comm]

theorem gen_sizedOffsetPack (offset size : Nat) :
    sizedOffsetEncode offset size = leBytes (Generated.sizedOffsetPack offset size % 2 ^ 64) 8 := by
  simp [sizedOffsetEncode, Generated.sizedOffsetPack, Nat.shiftLeft_eq, Nat.and_two_pow_sub_one_eq_mod size 16]

/-- the components are swapped: the source builds `Self::new(size, offset)`, the model answers `(offset, size)` -/
theorem gen_sizedOffsetUnpack (bs : Bytes) :
    sizedOffsetDecode bs = ((Generated.sizedOffsetUnpack (leNat bs)).2, (Generated.sizedOffsetUnpack (leNat bs)).1) := by
  simp [sizedOffsetDecode, Generated.sizedOffsetUnpack, Nat.shiftRight_eq_div_pow,
    Nat.and_two_pow_sub_one_eq_mod (leNat bs) 16]

theorem gen_contentInfoPack (cluster blob : Nat) :
    contentInfoEncode cluster blob = leBytes (Generated.contentInfoPack cluster blob % 2 ^ 32) 4 := by
  simp [contentInfoEncode, Generated.contentInfoPack, Nat.shiftLeft_eq, Nat.and_two_pow_sub_one_eq_mod blob 12]

theorem gen_contentInfoUnpack (bs : Bytes) :
    contentInfoDecode bs = Generated.contentInfoUnpack (leNat bs) := by
  have h : leNat bs % 4096 % 65536 = leNat bs % 4096 :=
    Nat.mod_eq_of_lt (Nat.lt_of_lt_of_le (Nat.mod_lt _ (by decide)) (by decide))
  simp [contentInfoDecode, Generated.contentInfoUnpack, Nat.shiftRight_eq_div_pow,
    Nat.and_two_pow_sub_one_eq_mod (leNat bs) 12, h]

/-- `Idx::is_valid(count)` is `idx < count` (the "address past the count" rule of C01/C02 rests on it);
    `Offset::is_valid(size)` is `offset ≤ size`. -/
theorem gen_isValid (i n : Nat) :
    Generated.idxIsValid i n = decide (i < n) ∧ Generated.offsetIsValid i n = decide (i ≤ n) := by
  simp [Generated.idxIsValid, Generated.offsetIsValid]

/-- the bytes produced by a sequence of `write_usized(value, width)` calls: a writer-mode translation is the list
    of these pairs, and a writer-side tie says `model bytes = writesBytes (generated writes)` -/
def writesBytes (ws : List (Nat × Nat)) : Bytes := (ws.map (fun p => leBytes p.1 p.2)).flatten

theorem writesBytes_nil : writesBytes [] = [] := rfl

theorem writesBytes_cons (x w : Nat) (ws : List (Nat × Nat)) : writesBytes ((x, w) :: ws) = leBytes x w ++ writesBytes ws :=
  rfl

theorem writesBytes_append (a b : List (Nat × Nat)) : writesBytes (a ++ b) = writesBytes a ++ writesBytes b := by
  simp [writesBytes]

theorem writesBytes_bytes (bs : Bytes) : writesBytes (bs.map (fun (b : UInt8) => (b.toNat, 1))) = bs := by
  induction bs with
  | nil => rfl
  | cons b bs ih =>
    rw [List.map_cons, writesBytes_cons, ih, leBytes_one, UInt8.ofNat_toNat]
    rfl

end Jubako
