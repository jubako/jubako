/-
Where the bytes of an inserted content sit in the written content pack (C16 at file level) and, from
that alone, what the reader returns (the file round trip of C01).
-/
import JubakoModel.Lemmas.ContentFile
import JubakoModel.Lemmas.Creator
import JubakoModel.Model.Pipeline

namespace Jubako

/-- The reads `contentGet f i` performs before it extracts a blob: they reach the cluster tail `t`,
    its payload at byte `start` of the file, and blob number `blob`. -/
def ReaderLocates (f : Bytes) (i : Nat) (t : ClusterTail) (start blob : Nat) : Prop :=
  ∃ (h : PackHeader) (ch : ContentHeader) (infoTable ptrTable : Bytes),
    contentOpen f = .ok (h, ch) ∧
    i < ch.contentCount ∧
    readBlock f ch.contentPtrPos (4 * ch.contentCount) = .ok infoTable ∧
    readBlock f ch.clusterPtrPos (8 * ch.clusterCount) = .ok ptrTable ∧
    (contentInfoDecode (slice infoTable (4 * i) 4)).2 = blob ∧
    (contentInfoDecode (slice infoTable (4 * i) 4)).1 < ch.clusterCount ∧
    clusterAt f (sizedOffsetDecode
      (slice ptrTable (8 * (contentInfoDecode (slice infoTable (4 * i) 4)).1) 8)) = .ok (t, start)

/-- the reader reaches one cluster and one blob only -/
theorem ReaderLocates.unique {f : Bytes} {i : Nat} {t t' : ClusterTail} {start start' blob blob' : Nat}
    (h1 : ReaderLocates f i t start blob) (h2 : ReaderLocates f i t' start' blob') :
    t = t' ∧ start = start' ∧ blob = blob' := by
  obtain ⟨h, ch, it, pt, ho, -, hi, hp, hb, -, hc⟩ := h1
  obtain ⟨h', ch', it', pt', ho', -, hi', hp', hb', -, hc'⟩ := h2
  rw [ho] at ho'
  cases ho'
  rw [hi] at hi'
  cases hi'
  rw [hp] at hp'
  cases hp'
  rw [hc] at hc'
  cases hc'
  exact ⟨rfl, rfl, hb.symm.trans hb'⟩

theorem contentGet_of_locates (dec : Nat → Bytes → Option Bytes) {f : Bytes} {i : Nat}
    {t : ClusterTail} {start blob : Nat} (h : ReaderLocates f i t start blob) :
    contentGet dec f i =
      (if t.comp = 0 then do
          let b ← blobOf t (slice f start t.rawSize) blob
          .ok (some b)
        else
          match dec t.comp (slice f start t.rawSize) with
          | none => .err .io
          | some plain => do
            let b ← blobOf t (plain.take t.dataSize) blob
            .ok (some b)) := by
  obtain ⟨hd, ch, it, pt, ho, hi, hit, hpt, hb, hcl, hc⟩ := h
  unfold contentGet
  rw [ho]
  simp only [Outcome.ok_bind]
  rw [if_neg (by omega), hit]
  simp only [Outcome.ok_bind]
  rw [if_neg (by omega), hpt]
  simp only [Outcome.ok_bind, hc, hb]
  rfl

theorem clusterAt_ok_bounds {f : Bytes} {so : Nat × Nat} {t : ClusterTail} {start : Nat}
    (h : clusterAt f so = .ok (t, start)) : start + t.rawSize = so.1 ∧ so.1 ≤ f.length := by
  obtain ⟨tb, hr, h⟩ := Outcome.bind_eq_ok.1 h
  obtain ⟨t', -, h⟩ := Outcome.bind_eq_ok.1 h
  have hb := readBlock_bounds hr
  split at h
  · cases h
  · cases h
    omega

theorem ReaderLocates.payload_in_file {f : Bytes} {i : Nat} {t : ClusterTail} {start blob : Nat}
    (h : ReaderLocates f i t start blob) : start + t.rawSize ≤ f.length := by
  obtain ⟨_, _, _, _, -, -, -, -, -, -, hc⟩ := h
  have := clusterAt_ok_bounds hc
  omega

/-- **Content `i` of the file `f` is stored verbatim**: the reader's chain of reads for `i` leads to
    an uncompressed cluster, and `d` sits in the file itself at the offsets the tail records for the
    blob. -/
def StoredVerbatim (f : Bytes) (i : Nat) (d : Bytes) : Prop :=
  ∃ (t : ClusterTail) (start blob : Nat),
    ReaderLocates f i t start blob ∧
    t.comp = 0 ∧ t.rawSize = t.dataSize ∧
    blob < t.blobCount ∧ blob ≤ t.offsets.length ∧
    t.blobEnd blob = t.blobStart blob + d.length ∧
    t.blobEnd blob ≤ t.rawSize ∧
    slice f (start + t.blobStart blob) d.length = d

/-- **Content `i` of the file `f` is stored compressed with the codec of the pack**: the reader's
    chain of reads for `i` leads to a cluster carrying the pack's compression byte (not "none") whose
    stored payload is `codec.compress plain` and decompresses back to `plain`, and `d` sits in `plain`
    at the offsets the tail records for the blob.  The last five conjuncts are `t.HasBlob plain blob d`
    (Cluster.lean) written out; the proofs build and use them as that. -/
def StoredCompressed (codec : Codec) (f : Bytes) (i : Nat) (d : Bytes) : Prop :=
  ∃ (t : ClusterTail) (start blob : Nat) (plain : Bytes),
    ReaderLocates f i t start blob ∧
    t.comp = codec.byte ∧ codec.byte ≠ 0 ∧
    slice f start t.rawSize = codec.compress plain ∧
    codec.decompress (slice f start t.rawSize) = some plain ∧
    plain.length = t.dataSize ∧
    blob < t.blobCount ∧ blob ≤ t.offsets.length ∧
    t.blobEnd blob = t.blobStart blob + d.length ∧
    t.blobEnd blob ≤ plain.length ∧
    slice plain (t.blobStart blob) d.length = d

theorem not_verbatim_and_compressed {codec : Codec} {f : Bytes} {i : Nat} {d d' : Bytes}
    (h1 : StoredVerbatim f i d) (h2 : StoredCompressed codec f i d') : False := by
  obtain ⟨t, start, blob, hl, h0, -⟩ := h1
  obtain ⟨t', start', blob', plain, hl', hb, hnz, -⟩ := h2
  obtain ⟨e, -, -⟩ := hl.unique hl'
  subst e
  rw [h0] at hb
  exact hnz hb.symm

theorem StoredVerbatim.contentGet_eq {f : Bytes} {i : Nat} {d : Bytes} (h : StoredVerbatim f i d)
    (dec : Nat → Bytes → Option Bytes) : contentGet dec f i = .ok (some d) := by
  obtain ⟨t, start, blob, hl, h0, hrd, hb1, hb2, hend, hle, hsl⟩ := h
  have hin := hl.payload_in_file
  have hpl : (slice f start t.rawSize).length = t.rawSize := slice_length hin
  rw [contentGet_of_locates dec hl, if_pos h0, ClusterTail.HasBlob.get
    ⟨hb1, hb2, hend, by rw [hpl]; exact hle, by rw [slice_slice (by omega)]; exact hsl⟩]
  rfl

/-- `StoredCompressed` alone makes the reader, given the decompressor of the codec, return `d` -/
theorem StoredCompressed.contentGet_eq {codec : Codec} {f : Bytes} {i : Nat} {d : Bytes}
    (h : StoredCompressed codec f i d) : contentGet codec.decompress' f i = .ok (some d) := by
  obtain ⟨t, start, blob, plain, hl, hb, hnz, -, hdec, hpl, hblob⟩ := h
  have hne : ¬ t.comp = 0 := by rw [hb]; exact hnz
  rw [contentGet_of_locates codec.decompress' hl, if_neg hne]
  show (match codec.decompress (slice f start t.rawSize) with
    | none => _
    | some plain => _) = _
  rw [hdec]
  simp only
  rw [← hpl, List.take_length, ClusterTail.HasBlob.get hblob]
  rfl

/-- What the reader needs of the clusters laid out in a pack.  `comp_byte` is the hypothesis of the
    pipeline's `c08_addresses`; 2^20 is the width of a cluster id in a content info. -/
structure PackWF (codec : Codec) (arrival : List Cluster) : Prop where
  ids_nodup : (arrival.map (·.idx)).Nodup
  ids_lt : ∀ c ∈ arrival, c.idx < arrival.length
  blobs : ∀ c ∈ arrival, 1 ≤ c.blobs.length ∧ c.blobs.length ≤ 4095
  data_lt : ∀ c ∈ arrival, c.dataSize < 2 ^ 64
  byte_le : codec.byte ≤ 3
  comp_byte : ClustersWF codec arrival
  count_le : arrival.length ≤ 2 ^ 20

section Written

variable (H : Bytes → Bytes) (codec : Codec) (m : ContentPackMeta) (arrival : List Cluster)
  (infos : List (Nat × Nat))

theorem locate_write (hm : m.WF) (hwf : PackWF codec arrival) (hcount : infos.length < 2 ^ 32)
    (hsize : (contentPackWrite H codec m arrival infos).length < 2 ^ 48)
    (i : Nat) (c : Cluster) (hc : c ∈ arrival) (k : Nat) (hinfo : infos[i]? = some (c.idx, k))
    (hk : k < c.blobs.length) :
    ∃ start : Nat,
      ReaderLocates (contentPackWrite H codec m arrival infos) i (c.storedTail codec) start k ∧
      slice (contentPackWrite H codec m arrival infos) start (c.payload codec).length =
        c.payload codec := by
  obtain ⟨hi, hinfo⟩ := List.getElem?_eq_some_iff.1 hinfo
  have hcpl := cfCheckPos_le_length H codec m arrival infos hm
  have hncl := hwf.count_le
  obtain ⟨hopen, hinfoT, hptr⟩ := contentOpen_contentPackWrite H codec m arrival infos hm hcount
    (by omega) (by omega)
  obtain ⟨p, Z, hcur, hso⟩ := cluster_in_file H codec m hm arrival infos hwf.ids_nodup c hc
  obtain ⟨hb1, hb2⟩ := hwf.blobs c hc
  have hcidx := hwf.ids_lt c hc
  have hds := hwf.data_lt c hc
  have hpos : p + (c.payload codec).length < 2 ^ 48 := by
    have := congrArg List.length hcur
    -- the 4 bytes of the block make the right side non-empty, so `p` is inside the file
    rw [List.length_drop, List.length_append, List.length_append, block_length] at this
    omega
  have hw : c.WFTail (if c.compressed then codec.byte else 0) (c.payload codec).length := by
    refine ⟨hb1, by omega, ?_, hds, by omega, ?_⟩
    · have := hwf.byte_le; split <;> omega
    · intro h0
      cases hcc : c.compressed with
      | true => rw [hcc] at h0; exact absurd h0 (hwf.comp_byte c hc hcc)
      | false => rw [(c.payload_raw codec hcc).1]; exact c.data_length
  have htl : (c.storedTail codec).encode.length < 2 ^ 16 :=
    Cluster.tail_encode_length_lt c _ _ hds (by omega) hb2
  have hcat := clusterAt_of_drop hcur (clusterTail_roundtrip c _ _ hw) rfl
  have hpay := slice_of_drop hcur rfl
  have hdi : contentInfoDecode (slice (cfInfoData infos) (4 * i) 4) = (c.idx, k) := by
    rw [cfInfoData_slice infos i hi, hinfo]
    exact contentInfo_roundtrip _ _ (by omega) (by omega)
  refine ⟨p, ⟨cfHeader codec m arrival infos, cfCH codec m arrival infos, cfInfoData infos,
    cfPtrData codec arrival, hopen, hi, hinfoT, hptr, ?_, ?_, ?_⟩, hpay⟩
  · rw [hdi]
  · rw [hdi]; exact hcidx
  · rw [hdi]
    show clusterAt _ (sizedOffsetDecode (slice (cfPtrData codec arrival) (8 * c.idx) 8)) = _
    rw [cfPtrData_slice codec arrival c.idx hcidx, hso, sizedOffset_roundtrip _ _ (by omega) htl]
    exact hcat

/-- the general form of C16's file-level statements: any well-formed cluster list, any info table -/
theorem stored_write (hm : m.WF) (hwf : PackWF codec arrival) (hcount : infos.length < 2 ^ 32)
    (hsize : (contentPackWrite H codec m arrival infos).length < 2 ^ 48)
    (i : Nat) (c : Cluster) (hc : c ∈ arrival) (k : Nat) (hinfo : infos[i]? = some (c.idx, k))
    (hk : k < c.blobs.length) :
    (c.compressed = false →
      StoredVerbatim (contentPackWrite H codec m arrival infos) i c.blobs[k]) ∧
    (c.compressed = true → codec.Sound →
      StoredCompressed codec (contentPackWrite H codec m arrival infos) i c.blobs[k]) := by
  obtain ⟨start, hloc, hpay⟩ :=
    locate_write H codec m arrival infos hm hwf hcount hsize i c hc k hinfo hk
  generalize contentPackWrite H codec m arrival infos = F at hloc hpay ⊢
  constructor
  · intro hraw
    obtain ⟨hpl, hst⟩ := c.payload_raw codec hraw
    rw [hpl] at hpay; rw [hst] at hloc
    obtain ⟨h1, h2, h3, h4, h5⟩ := tail_blob c 0 c.data.length k hk
    refine ⟨_, start, k, hloc, rfl, c.data_length, h1, h2, h3, h4, ?_⟩
    rw [← slice_slice (n := c.data.length) (by omega), hpay]
    exact h5
  · intro hcomp hcodec
    obtain ⟨hpl, hst⟩ := c.payload_comp codec hcomp
    rw [hpl] at hpay; rw [hst] at hloc
    exact ⟨_, start, k, c.data, hloc, rfl, hwf.comp_byte c hc hcomp, hpay,
      (congrArg codec.decompress hpay).trans (hcodec c.data), c.data_length, tail_blob c codec.byte _ k hk⟩

theorem contentGet_write_none (hm : m.WF) (hcount : infos.length < 2 ^ 32)
    (hncl : arrival.length ≤ 2 ^ 20)
    (hsize : (contentPackWrite H codec m arrival infos).length < 2 ^ 48)
    (dec : Nat → Bytes → Option Bytes) (i : Nat) (hi : infos.length ≤ i) :
    contentGet dec (contentPackWrite H codec m arrival infos) i = .ok none := by
  have hcpl := cfCheckPos_le_length H codec m arrival infos hm
  obtain ⟨hopen, -, -⟩ := contentOpen_contentPackWrite H codec m arrival infos hm hcount
    (by omega) (by omega)
  unfold contentGet
  rw [hopen]
  simp only [Outcome.ok_bind]
  rw [show (cfCH codec m arrival infos).contentCount = infos.length from rfl, if_pos hi]

end Written

/-- Where each limit comes from:
    * `byte_le`, `comp` — the compression byte is one of none/lz4/lzma/zstd (0..3), and a pack created
      with `Compression::None` (byte 0) sends no item to a compressed cluster (`detect_compression`
      returns false);
    * `meta_wf` — vendor 4 bytes, uuid 16 bytes, free data 24 bytes (fixed-size arrays in the code);
    * `perm` — the compression workers deliver the finalized clusters in any order;
    * `count` — the content count is a `u32` in the content pack header;
    * `clusterCount` — a cluster id is 20 bits in a `ContentInfo` (`cluster << 12 | blob`);
    * `dataSize` — sizes are `u64` (`data_size` of a cluster tail is at most 8 bytes);
    * `fileSize` — a `SizedOffset` keeps 48 bits for the offset of a cluster tail.
    Soundness of the codec is not among them: it is needed only where something is decompressed. -/
structure ContentLimits (H : Bytes → Bytes) (codec : Codec) (m : ContentPackMeta)
    (items : List Item) (arrival : List Cluster) : Prop where
  byte_le : codec.byte ≤ 3
  meta_wf : m.WF
  perm : arrival.Perm ((Creator.init.addAll items).finalize).1
  comp : codec.byte = 0 → ∀ it ∈ items, it.comp = false
  count : items.length < 2 ^ 32
  clusterCount : arrival.length ≤ 2 ^ 20
  dataSize : totalSize items < 2 ^ 64
  fileSize : (contentPackWrite H codec m arrival ((Creator.init.addAll items).finalize).2).length
    < 2 ^ 48

section Inserted

variable {H : Bytes → Bytes} {codec : Codec} {m : ContentPackMeta} {items : List Item}
  {arrival : List Cluster}

theorem creator_packWF (L : ContentLimits H codec m items arrival) : PackWF codec arrival := by
  have inv := creatorInv_addAll items
  have inv2 := creatorSizeInv_addAll items
  have hp := L.perm
  rw [(finalize_eq_all items).1] at hp
  have hmem : ∀ c ∈ arrival, c ∈ (Creator.init.addAll items).allClusters := fun c => hp.mem_iff.1
  refine ⟨(hp.map _).nodup_iff.2 inv.ids_nodup, ?_, ?_, ?_, L.byte_le, ?_, L.clusterCount⟩
  · intro x hx
    rw [hp.length_eq, inv.count]
    exact inv.ids_lt x (hmem x hx)
  · intro x hx
    have := inv.nonempty x (hmem x hx)
    exact ⟨this.1, Nat.le_trans this.2 maxBlobsPerCluster_le⟩
  · intro x hx
    have := inv2.data_le x (hmem x hx)
    have := L.dataSize
    omega
  · intro x hx hxc h0
    obtain ⟨it, hit, hitc⟩ := inv2.comp_origin x (hmem x hx) hxc
    rw [L.comp h0 it hit] at hitc
    exact Bool.noConfusion hitc

/-- C16 at file level (`c16_file_*`) and, through `Stored*.contentGet_eq`, the round trip of C01 -/
theorem stored_in_file (L : ContentLimits H codec m items arrival) (i : Nat)
    (hi : i < items.length) :
    ((items[i]).comp = false →
      StoredVerbatim (contentPackWrite H codec m arrival ((Creator.init.addAll items).finalize).2) i
        (items[i]).data) ∧
    ((items[i]).comp = true → codec.Sound →
      StoredCompressed codec
        (contentPackWrite H codec m arrival ((Creator.init.addAll items).finalize).2) i
        (items[i]).data) := by
  have inv := creatorInv_addAll items
  obtain ⟨c, hc, k, hinfo, hblob, hkind⟩ := inv.located_getElem hi
  obtain ⟨hk, hkd⟩ := List.getElem?_eq_some_iff.1 hblob
  have hp := L.perm
  have hsize := L.fileSize
  rw [(finalize_eq_all items).1] at hp
  rw [(finalize_eq_all items).2] at hsize ⊢
  rw [← hkind, ← hkd]
  exact stored_write H codec m arrival _ L.meta_wf (creator_packWF L) (inv.infos_len ▸ L.count) hsize
    i c (hp.mem_iff.2 hc) k hinfo hk

/-- `c16_file_verbatim` -/
theorem verbatim_in_file (L : ContentLimits H codec m items arrival) (i : Nat)
    (hi : i < items.length) (hraw : (items[i]).comp = false) :
    StoredVerbatim (contentPackWrite H codec m arrival ((Creator.init.addAll items).finalize).2) i
      (items[i]).data :=
  (stored_in_file L i hi).1 hraw

/-- `c16_file_compressed` -/
theorem compressed_in_file (hcodec : codec.Sound) (L : ContentLimits H codec m items arrival)
    (i : Nat) (hi : i < items.length) (hc : (items[i]).comp = true) :
    StoredCompressed codec
      (contentPackWrite H codec m arrival ((Creator.init.addAll items).finalize).2) i
      (items[i]).data :=
  (stored_in_file L i hi).2 hc hcodec

/-- `c16_file_no_compression_verbatim` -/
theorem verbatim_of_no_compression (L : ContentLimits H codec m items arrival)
    (hnone : codec.byte = 0) (i : Nat) (hi : i < items.length) :
    StoredVerbatim (contentPackWrite H codec m arrival ((Creator.init.addAll items).finalize).2) i
      (items[i]).data :=
  verbatim_in_file L i hi (L.comp hnone _ (List.getElem_mem hi))

end Inserted

/-- `c01_file_roundtrip`.  The composition — clusters and infos from `Creator.finalize`, file from
    `contentPackWrite` — is the one the correspondence check (`cp.encode`) runs. -/
theorem contentGet_contentPackWrite {H : Bytes → Bytes} {codec : Codec} {m : ContentPackMeta}
    {items : List Item} {arrival : List Cluster} (hcodec : codec.Sound)
    (L : ContentLimits H codec m items arrival) (i : Nat) (hi : i < items.length) :
    contentGet codec.decompress'
        (contentPackWrite H codec m arrival ((Creator.init.addAll items).finalize).2) i =
      .ok (some (items[i]).data) := by
  have h := stored_in_file L i hi
  cases hk : (items[i]).comp with
  | false => exact (h.1 hk).contentGet_eq _
  | true => exact (h.2 hk hcodec).contentGet_eq

/-- `c01_file_past_end` -/
theorem contentGet_contentPackWrite_none (H : Bytes → Bytes) (codec : Codec)
    (m : ContentPackMeta) (hm : m.WF) (items : List Item) (arrival : List Cluster)
    (hcount : items.length < 2 ^ 32)
    (hncl : arrival.length ≤ 2 ^ 20)
    (hsize : (contentPackWrite H codec m arrival ((Creator.init.addAll items).finalize).2).length
      < 2 ^ 48)
    (i : Nat) (hi : items.length ≤ i) :
    contentGet codec.decompress'
        (contentPackWrite H codec m arrival ((Creator.init.addAll items).finalize).2) i =
      .ok none := by
  have hl := (creatorInv_addAll items).infos_len
  rw [(finalize_eq_all items).2] at hsize ⊢
  exact contentGet_write_none H codec m arrival _ hm (hl ▸ hcount) hncl hsize _ i (hl ▸ hi)

/-- the same statement with the arrival order given as a permutation of `allClusters` and the
    infos read off the creator state (`finalize` keeps everything: `finalize_eq_all`) -/
theorem contentGet_contentPackWrite_allClusters (H : Bytes → Bytes) (codec : Codec)
    (hcodec : codec.Sound) (hbyte : codec.byte ≤ 3) (m : ContentPackMeta) (hm : m.WF)
    (items : List Item) (arrival : List Cluster)
    (hp : arrival.Perm (Creator.init.addAll items).allClusters)
    (hcomp : codec.byte = 0 → ∀ it ∈ items, it.comp = false)
    (hcount : items.length < 2 ^ 32)
    (hncl : arrival.length ≤ 2 ^ 20)
    (hdata : totalSize items < 2 ^ 64)
    (hsize : (contentPackWrite H codec m arrival (Creator.init.addAll items).infos).length < 2 ^ 48)
    (i : Nat) (hi : i < items.length) :
    contentGet codec.decompress'
        (contentPackWrite H codec m arrival (Creator.init.addAll items).infos) i =
      .ok (some (items[i]).data) := by
  obtain ⟨he1, he2⟩ := finalize_eq_all items
  rw [← he1] at hp
  rw [← he2] at hsize ⊢
  exact contentGet_contentPackWrite hcodec ⟨hbyte, hm, hp, hcomp, hcount, hncl, hdata, hsize⟩ i hi

/-! non-vacuity: the hypotheses hold on concrete packs, and the two classes are told apart -/

namespace ContentFileExample

def file : Bytes :=
  contentPackWrite hash codec pmeta arrival ((Creator.init.addAll items).finalize).2

theorem limits : ContentLimits hash codec pmeta items arrival :=
  ⟨by decide, pmeta_wf, arrival_perm, by decide, by decide, by decide, by decide, size_ok⟩

theorem item0_verbatim : StoredVerbatim file 0 [1, 2] :=
  verbatim_in_file limits 0 (by decide) rfl

theorem item1_compressed : StoredCompressed codec file 1 [3, 4, 5] :=
  compressed_in_file codec_sound limits 1 (by decide) rfl

/-- the empty raw item, second blob of the raw cluster -/
theorem item2_verbatim : StoredVerbatim file 2 [] :=
  verbatim_in_file limits 2 (by decide) rfl

/-- … and the statements discriminate: the compressed item is *not* stored verbatim, the raw one
    is *not* stored compressed -/
theorem item1_not_verbatim (d : Bytes) : ¬ StoredVerbatim file 1 d :=
  fun h => not_verbatim_and_compressed h item1_compressed

theorem item0_not_compressed (d : Bytes) : ¬ StoredCompressed codec file 0 d :=
  fun h => not_verbatim_and_compressed item0_verbatim h

/-- nothing is stored in a file that does not open -/
theorem empty_file_stores_nothing (i : Nat) (d : Bytes) : ¬ StoredVerbatim [] i d := by
  intro h
  have := h.contentGet_eq (fun _ _ => none)
  have hopen : contentOpen [] = .err .format := rfl
  unfold contentGet at this
  rw [hopen] at this
  cases this

example :
    contentGet codec.decompress'
        (contentPackWrite hash codec pmeta arrival ((Creator.init.addAll items).finalize).2) 1 =
      .ok (some [3, 4, 5]) :=
  contentGet_contentPackWrite codec_sound limits 1 (by decide)

example :
    contentGet codec.decompress'
        (contentPackWrite hash codec pmeta arrival ((Creator.init.addAll items).finalize).2) 3 =
      .ok none :=
  contentGet_contentPackWrite_none hash codec pmeta pmeta_wf items arrival (by decide) (by decide)
    size_ok 3 (by decide)

def rawCodec : Codec := ⟨0, fun _ => [], fun _ => none⟩
def rawItems : List Item := [⟨[1, 2], false⟩, ⟨[], false⟩, ⟨[9], false⟩]
def rawArrival : List Cluster := ((Creator.init.addAll rawItems).finalize).1

theorem raw_size_ok :
    (contentPackWrite hash rawCodec pmeta rawArrival
      ((Creator.init.addAll rawItems).finalize).2).length < 2 ^ 48 := by
  rw [contentPackWrite_length _ _ _ _ _ pmeta_wf, cfTrailer_length _ _ _ _ _ pmeta_wf fun _ => rfl,
    cfCheckPos_eq]
  decide

/-- every content of the pack without compression is verbatim in the file — here with a codec whose
    compressor destroys the data and whose decompressor always fails -/
theorem raw_pack_all_verbatim (i : Nat) (hi : i < rawItems.length) :
    StoredVerbatim (contentPackWrite hash rawCodec pmeta rawArrival
      ((Creator.init.addAll rawItems).finalize).2) i (rawItems[i]).data :=
  verbatim_of_no_compression ⟨by decide, pmeta_wf, List.Perm.refl _, by decide, by decide, by decide,
    by decide, raw_size_ok⟩ rfl i hi

end ContentFileExample

end Jubako
