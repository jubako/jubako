/- `slice`: its length, its elements, and how it moves through `take`, `++` and itself; a few `getD` facts; tables of
   fixed-width entries (`flatten_fixed_*`); the cursor `f.drop p = a ++ g`, by which a written file is walked. -/
import JubakoModel.Model.Bytes

namespace Jubako

theorem slice_length_eq (bs : Bytes) (off len : Nat) :
    (slice bs off len).length = min len (bs.length - off) := by
  simp only [slice, List.length_take, List.length_drop]

theorem slice_length {bs : Bytes} {off len : Nat} (h : off + len ≤ bs.length) :
    (slice bs off len).length = len := by
  rw [slice_length_eq]; omega

theorem slice_getElem? (bs : Bytes) (a len i : Nat) :
    (slice bs a len)[i]? = if i < len then bs[a + i]? else none := by
  simp only [slice, List.getElem?_take, List.getElem?_drop]

theorem slice_congr {f g : Bytes} {off m : Nat} (h : ∀ k, k < m → g[off + k]? = f[off + k]?) :
    slice g off m = slice f off m := by
  apply List.ext_getElem?
  intro k
  rw [slice_getElem?, slice_getElem?]
  split
  · exact h k ‹_›
  · rfl

theorem slice_zero_len (bs : Bytes) (a : Nat) : slice bs a 0 = [] := List.take_zero

theorem slice_all (bs : Bytes) : slice bs 0 bs.length = bs := List.take_length

theorem take_slice {bs : Bytes} {a n k : Nat} (h : k ≤ n) :
    (slice bs a n).take k = slice bs a k := by
  simp only [slice, List.take_take, Nat.min_eq_left h]

theorem slice_slice {bs : Bytes} {a n off sz : Nat} (h : off + sz ≤ n) :
    slice (slice bs a n) off sz = slice bs (a + off) sz := by
  simp only [slice, List.drop_take, List.take_take, List.drop_drop]
  rw [Nat.min_eq_left (by omega)]

theorem slice_add_len (bs : Bytes) (a m k : Nat) :
    slice bs a (m + k) = slice bs a m ++ slice bs (a + m) k := by
  simp only [slice, List.take_add, List.drop_drop]

theorem slice_drop (bs : Bytes) (o off len : Nat) :
    slice (bs.drop o) off len = slice bs (o + off) len := by
  simp only [slice, List.drop_drop]

theorem slice_take {bs : Bytes} {m off len : Nat} (h : off + len ≤ m) :
    slice (bs.take m) off len = slice bs off len := by
  simp only [slice, List.drop_take, List.take_take]
  rw [Nat.min_eq_left (by omega)]

theorem slice_append_of_le {a b : Bytes} {off len : Nat} (h : off + len ≤ a.length) :
    slice (a ++ b) off len = slice a off len := by
  simp only [slice]
  rw [List.drop_append_of_le_length (by omega),
    List.take_append_of_le_length (by rw [List.length_drop]; omega)]

/-! `seg_simp` (Codec.lean) walks a right-nested `++` with `slice_skip`, `slice_here`, `slice_last`,
`slice_cons_succ` and, for single bytes, `getD_skip`. -/

theorem slice_skip {a b : Bytes} {off len : Nat} (h : a.length ≤ off) :
    slice (a ++ b) off len = slice b (off - a.length) len := by
  simp only [slice, List.drop_append, List.drop_of_length_le h, List.nil_append]

theorem slice_last {a : Bytes} {len : Nat} (h : a.length = len) : slice a 0 len = a :=
  h ▸ slice_all a

theorem slice_here {a b : Bytes} {len : Nat} (h : a.length = len) : slice (a ++ b) 0 len = a := by
  rw [slice_append_of_le (by omega), slice_last h]

theorem slice_cons_succ (x : UInt8) (a : Bytes) (off len : Nat) :
    slice (x :: a) (off + 1) len = slice a off len := rfl

theorem slice_append_right (a b : Bytes) (off len : Nat) :
    slice (a ++ b) (a.length + off) len = slice b off len := by
  rw [slice_skip (Nat.le_add_right ..), Nat.add_sub_cancel_left]

theorem slice_after_prefix (pre w : Bytes) : slice (pre ++ w) pre.length w.length = w := by
  rw [slice_skip (Nat.le_refl _), Nat.sub_self, slice_all]

theorem slice_mirrored_tail (Y hb : Bytes) (hbl : hb.length = 64) :
    (slice (Y ++ hb.reverse) ((Y ++ hb.reverse).length - 64) 64).reverse = hb := by
  have := slice_after_prefix Y hb.reverse
  rw [List.length_reverse, hbl] at this
  rw [List.length_append, List.length_reverse, hbl, Nat.add_sub_cancel, this, List.reverse_reverse]

theorem getD_of_lt {α : Type} (l : List α) (i : Nat) (d : α) (h : i < l.length) :
    l.getD i d = l[i] := (List.getElem_eq_getD d).symm

theorem getD_append_lt {α : Type} (l l' : List α) (d : α) (n : Nat) (h : n < l.length) :
    (l ++ l').getD n d = l.getD n d := by
  simp [List.getD_eq_getElem?_getD, List.getElem?_append_left h]

theorem getD_concat_length {α : Type} (l : List α) (a d : α) (n : Nat) (h : n = l.length) :
    (l ++ [a]).getD n d = a := by
  subst h
  simp [List.getD_eq_getElem?_getD]

theorem getD_skip {α : Type} (a b : List α) (n : Nat) (d : α) (h : a.length ≤ n) :
    (a ++ b).getD n d = b.getD (n - a.length) d := by
  simp [List.getD_eq_getElem?_getD, List.getElem?_append_right h]

theorem nodup_map_inj {α β : Type} {f : α → β} {l : List α} (h : (l.map f).Nodup) {x y : α}
    (hx : x ∈ l) (hy : y ∈ l) (hxy : f x = f y) : x = y :=
  have p := List.pairwise_map.1 h
  List.Pairwise.forall_of_forall_of_flip (R := fun a b => f a = f b → a = b) (fun _ _ _ => rfl)
    (p.imp fun hne e => absurd e hne) (p.imp fun hne e => absurd e.symm hne) hx hy hxy

theorem flatten_fixed_length_mem {α : Type} (l : List α) (f : α → Bytes) (k : Nat)
    (hf : ∀ x ∈ l, (f x).length = k) : ((l.map f).flatten).length = l.length * k := by
  rw [List.length_flatten, List.map_map, List.map_congr_left (f := List.length ∘ f) (g := fun _ => k) hf,
    List.map_const', List.sum_replicate_nat]

theorem slice_flatten_fixed_mem {α : Type} (l : List α) (f : α → Bytes) (k : Nat)
    (hf : ∀ x ∈ l, (f x).length = k) (i : Nat) (hi : i < l.length) :
    slice ((l.map f).flatten) (i * k) k = f l[i] := by
  induction l generalizing i with
  | nil => cases hi
  | cons a l ih =>
    have ha := hf a List.mem_cons_self
    rw [List.map_cons, List.flatten_cons]
    cases i with
    | zero => rw [Nat.zero_mul]; exact slice_here ha
    | succ i =>
      rw [slice_skip (by rw [ha, Nat.succ_mul]; exact Nat.le_add_left ..), ha, Nat.succ_mul,
        Nat.add_sub_cancel]
      exact ih (fun x hx => hf x (List.mem_cons_of_mem _ hx)) i (Nat.lt_of_succ_lt_succ hi)

theorem flatten_fixed_length {α : Type} (l : List α) (f : α → Bytes) (k : Nat)
    (hf : ∀ x, (f x).length = k) : ((l.map f).flatten).length = k * l.length := by
  rw [flatten_fixed_length_mem l f k (fun x _ => hf x), Nat.mul_comm]

theorem slice_flatten_fixed {α : Type} (l : List α) (f : α → Bytes) (k : Nat)
    (hf : ∀ x, (f x).length = k) (i : Nat) (d : α) (hi : i < l.length) :
    slice ((l.map f).flatten) (k * i) k = f (l.getD i d) := by
  rw [Nat.mul_comm, slice_flatten_fixed_mem l f k (fun x _ => hf x) i hi, getD_of_lt l i d hi]

/-! A writer keeps a running position.  `f.drop p = a ++ g` says that `a` stands at `p` and `g` follows: the positions
reached by walking a written file with `drop_skip` are the writer's own running sums, so they agree with its
bookkeeping by unfolding, without arithmetic.  Walk a generalised `f`, never the writer's output itself (Codec.lean
says why).  The `pre ++ (x ++ post)` forms below are `slice_of_drop (List.drop_left' _)`. -/

theorem drop_skip {f a g : Bytes} {p : Nat} (h : f.drop p = a ++ g) : f.drop (p + a.length) = g := by
  rw [← List.drop_drop, h, List.drop_left]

theorem drop_skip_len {f a g : Bytes} {p k : Nat} (h : f.drop p = a ++ g) (hk : a.length = k) :
    f.drop (p + k) = g := hk ▸ drop_skip h

theorem slice_of_drop {f a g : Bytes} {p n : Nat} (h : f.drop p = a ++ g) (hn : a.length = n) :
    slice f p n = a := by
  rw [slice, h, List.take_left' hn]

theorem slice_at {a b c : Bytes} {off len : Nat} (h1 : a.length = off) (h2 : b.length = len) :
    slice (a ++ (b ++ c)) off len = b :=
  slice_of_drop (List.drop_left' h1) h2

theorem slice_mid (a b c : Bytes) : slice (a ++ b ++ c) a.length b.length = b := by
  rw [List.append_assoc]; exact slice_at rfl rfl

end Jubako
