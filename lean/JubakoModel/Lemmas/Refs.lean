/-
For C15: `finalize`'s step sequence in closed form (the cells equal the final positions), and what that makes
of `DirRefIn.finalize` and `DirRefIn.boundOf` (Model/Refs.lean): the entries in the final order, every reference
resolved to the final position of its target.  The written file comes in only in Theorems/C15.lean.
-/
import JubakoModel.Model.Refs

namespace Jubako

def CellsOk (s : FinSt) : Prop := ∀ e, s.cells e = s.order.idxOf e

/-- every sort pass is followed by a renumbering, and a renumbering forgets the old cells -/
theorem FinSt.run_finalizeSteps (s : FinSt) (passes : List (List Nat)) :
    s.run (finalizeSteps passes) =
      ⟨passes.getLastD s.order, fun e => (passes.getLastD s.order).idxOf e⟩ := by
  have key : ∀ (passes : List (List Nat)) (o : List Nat),
      (passes.map (fun p => [FinStep.sort p, FinStep.setIdx])).flatten.foldl FinSt.step
          ⟨o, fun e => o.idxOf e⟩ =
        ⟨passes.getLastD o, fun e => (passes.getLastD o).idxOf e⟩ := by
    intro passes
    induction passes with
    | nil => intro o; rfl
    | cons p rest ih => intro o; rw [List.getLastD_cons]; exact ih p
  exact key passes s.order

/-- running `finalize`'s step sequence, whatever each sort pass returns, leaves the cells equal to
    the positions in the final order, and the final order is the result of the last pass (or the
    insertion order when the store is not sorted) -/
theorem finalize_cells (order0 : List Nat) (cells0 : Cells) (passes : List (List Nat)) :
    let s := (FinSt.mk order0 cells0).run (finalizeSteps passes)
    CellsOk s ∧ s.order = passes.getLastD order0 := by
  -- `FinSt.run_finalizeSteps` read through `CellsOk`
  rw [FinSt.run_finalizeSteps]
  exact ⟨fun _ => rfl, rfl⟩

theorem filterMap_eq_map_of {α β} {g : α → Option β} {f : α → β} {l : List α}
    (h : ∀ a ∈ l, g a = some (f a)) : l.filterMap g = l.map f := by
  induction l with
  | nil => rfl
  | cons a l ih =>
    rw [List.filterMap_cons_some (h a List.mem_cons_self), List.map_cons,
      ih fun x hx => h x (List.mem_cons_of_mem _ hx)]

def DirRefIn.finalOrder (d : DirRefIn) (passes : List (List Nat)) : List Nat :=
  passes.getLastD (List.range d.entries.length)

theorem DirRefIn.finalize_entries (d : DirRefIn) (passes : List (List Nat))
    (hperm : (d.finalOrder passes).Perm (List.range d.entries.length)) :
    (d.finalize passes).entries.length = d.entries.length ∧
    ∀ (e : Nat) (he : e < d.entries.length),
      (d.finalOrder passes).idxOf e < d.entries.length ∧
      (d.finalize passes).entries[(d.finalOrder passes).idxOf e]? =
        some (d.entries[e].resolve (fun t => (d.finalOrder passes).idxOf t)) := by
  -- every id of the final order is an entry, so `filterMap` drops nothing
  have hentries : (d.finalize passes).entries = (d.finalOrder passes).map
      (fun id => (d.entries.getD id ⟨none, []⟩).resolve fun t => (d.finalOrder passes).idxOf t) := by
    rw [DirRefIn.finalize, FinSt.run_finalizeSteps]
    refine filterMap_eq_map_of (l := d.finalOrder passes) fun id hid => ?_
    have hlt : id < d.entries.length := List.mem_range.mp (hperm.mem_iff.mp hid)
    rw [List.getD_eq_getElem?_getD, List.getElem?_eq_getElem hlt]; rfl
  have hlen : (d.finalOrder passes).length = d.entries.length := by
    rw [hperm.length_eq, List.length_range]
  refine ⟨by rw [hentries, List.length_map, hlen], fun e he => ?_⟩
  have hidx : (d.finalOrder passes).idxOf e < (d.finalOrder passes).length :=
    List.idxOf_lt_length_of_mem (hperm.mem_iff.mpr (List.mem_range.mpr he))
  refine ⟨hlen ▸ hidx, ?_⟩
  rw [hentries, List.getElem?_map, List.getElem?_eq_getElem hidx, List.getElem_idxOf hidx,
    Option.map_some, List.getD_eq_getElem?_getD, List.getElem?_eq_getElem he]; rfl

theorem DirRefIn.boundOf_eq (d : DirRefIn) (passes : List (List Nat)) (e : Nat) :
    d.boundOf passes e = (d.finalOrder passes).idxOf e := by
  rw [DirRefIn.boundOf, FinSt.run_finalizeSteps]; rfl

end Jubako
