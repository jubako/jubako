/-
Ties of the creator's entry serialiser (`creator/directory_pack/layout/{property,properties}.rs`) to the Rust
bodies translated from the source on every run (Generated/FuncsEntry.lean): `Property::size`, `fill_to_size`, and
`serialize_entry` key by key.
-/
import JubakoModel.Model.DirWriter
import JubakoModel.Generated.FuncsEntry
import JubakoModel.Lemmas.FuncsBytes
import JubakoModel.Lemmas.FuncsDir

namespace Jubako

/-- what `Property::size` computes from the kind -/
def RawProp.kindSize (p : RawProp) : Nat :=
  match p.kind with
  | .padding => p.size
  | .variantId => 1
  | .uint sz dflt => if dflt.isSome then 0 else sz
  | .sint sz dflt => if dflt.isSome then 0 else sz
  | .content ps cs dflt => (if dflt.isSome then 0 else ps) + cs
  | .array lenSize fixedLen dep _ => lenSize.getD 0 + fixedLen + (dep.map (·.1)).getD 0
  | .deportedInt _ _ _ _ => p.size

/-- **`Property::size` translated on every run is the size the model's layout records**, for every property
    whose recorded size is the one its kind implies, within the ranges a header can hold. -/
theorem gen_layoutPropertySize (p : RawProp) (src : Generated.SrcProperty) (hs : p.toSrc = some src)
    (hw : p.HeaderWF) (hk : p.size = p.kindSize) : Generated.layoutPropertySize src = p.size := by
  have m : ∀ {x : Nat}, x ≤ 256 → x % 65536 = x := fun h => Nat.mod_eq_of_lt (Nat.lt_of_le_of_lt h (by decide))
  obtain ⟨size, name, kind⟩ := p
  cases kind <;> cases hs
  case padding => exact m hw.2
  case variantId => exact hk.symm
  case uint sz dflt | sint sz dflt =>
    cases dflt with
    | none => exact (m (Nat.le_trans hw.2 (by decide))).trans hk.symm
    | some _ => exact hk.symm
  case content ps cs dflt =>
    have hp : ps ≤ 256 := by rcases hw.2.2 with rfl | rfl <;> decide
    rw [hk]; cases dflt <;>
      simp only [Generated.layoutPropertySize, RawProp.kindSize, m hp, m (Nat.le_trans hw.2.1 (by decide)), Option.isSome]
      <;> rfl
  case array lenSize fixedLen dep dflt =>
    rw [hk]
    have hf := m (Nat.le_trans hw.2.2 (by decide))
    have hl : ∀ l, lenSize = some l → l % 65536 = l := fun l h => m (Nat.le_trans (hw.1 l h) (by decide))
    have hd : ∀ x, dep = some x → x.1 % 65536 = x.1 := fun x h => m (Nat.le_trans (hw.2.1 x.1 x.2 h) (by decide))
    cases lenSize <;> cases dep <;>
      simp only [Generated.layoutPropertySize, RawProp.kindSize, hf, Option.getD, Option.map, hl, hd]

/-- the finalised properties of the writer model record the size their kind implies -/
theorem finalizeProp_kindSize (stores : List VStore) (pd : PropDef) (col : List Val) :
    (finalizeProp stores pd col).size = (finalizeProp stores pd col).kindSize := by
  unfold finalizeProp
  cases pd.ty <;> simp only <;> split <;> simp [RawProp.kindSize]

theorem fillToSize_loop_eq (e s c fuel n : Nat) (pads : List Nat) (h : n < 16 * fuel) :
    Generated.fillToSize_loop e s pads c n fuel = some (pads ++ (paddingProps n).map (·.size)) := by
  fun_induction Generated.fillToSize_loop e s pads c n fuel with
  | case1 => omega
  | case2 pads n fuel h16 pads' n' ih =>
    rw [ih (by omega)]
    obtain ⟨m, rfl⟩ : ∃ m, n = m + 1 := ⟨n - 1, by omega⟩
    rw [paddingProps]
    simp [h16, pads', n']
  | case3 pads n fuel h16 h0 pads' =>
    obtain ⟨m, rfl⟩ : ∃ m, n = m + 1 := ⟨n - 1, by omega⟩
    rw [paddingProps, if_neg h16]
    simp [pads', Nat.mod_eq_of_lt (by omega : m + 1 < 256)]
  | case4 pads n fuel h16 h0 =>
    obtain rfl : n = 0 := by omega
    simp [paddingProps]

/-- `Properties::fill_to_size`; `some`: its loop terminates. Meaningful for `cur ≤ size`: below, the truncated
    `Nat` subtraction of the translation gives no padding where the `u16` subtraction of the source panics or
    wraps. -/
theorem gen_fillToSize (cur size : Nat) :
    Generated.fillToSize cur size = some ((paddingProps (size - cur)).map (·.size)) := by
  unfold Generated.fillToSize
  simp only []
  rw [fillToSize_loop_eq _ _ _ (size + 1) (size - cur) [] (by omega)]
  simp

/-- the `Value` the creator holds for a property of an entry when it serialises it: arrays as (full length,
    inline prefix, id the value store gave to the remainder), indirect arrays as the id of the whole array. The
    defaults (`| _`, `getD`) are those of `serializeProp` -/
def entryValueOf (stores : List VStore) (p : RawProp) (v : Val) : Generated.SrcEntryValue :=
  match p.kind with
  | .uint _ _ => .unsigned (uintOf v)
  | .sint _ _ => .signed (sintOf v)
  | .content _ _ _ => .content (packOf v, cidOf v)
  | .array lenSize fixed dep _ =>
    let a := arrayOf v
    let vs := stores.getD ((dep.map (·.2)).getD 0) ⟨false, []⟩
    match lenSize with
    | none => .indirectArray (vs.idOf a)
    | some _ => .array (a.length, a.take fixed, vs.idOf (a.drop fixed))
  | _ => .unsigned 0

/-- what the creator guarantees when it serialises a value under a finalised property (the `assert_eq!`s of
    `serialize_entry`): a default is only given values equal to it; an array refers to a value store, and
    without a length field it has no inline part. Nothing is asked for a `VariantId` key: there the source runs
    `variant_id.unwrap()` and the translation writes `variant.getD 0` (a hand-made entry of the table), so the ties
    below speak of the source only for `variant.isSome` -/
def RawProp.ValueOK (p : RawProp) (v : Val) : Prop :=
  match p.kind with
  | .uint _ dflt => ∀ d, dflt = some d → d = uintOf v
  | .sint _ dflt => ∀ d, dflt = some d → d = sintOf v
  | .content _ _ dflt => ∀ d, dflt = some d → d = packOf v
  | .array lenSize fixed dep _ => dep.isSome ∧ (lenSize = none → fixed = 0)
  | .deportedInt _ _ _ _ => False
  | _ => True

/-- the per-property body of `Properties::serialize_entry`; `some`: it neither panics nor returns an error on a
    value the property accepts -/
theorem gen_entryPropertyWrites (stores : List VStore) (p : RawProp) (src : Generated.SrcProperty) (v : Val)
    (variant : Option Nat) (hs : p.toSrc = some src) (hv : p.ValueOK v) :
    (Generated.entryPropertyWrites src (entryValueOf stores p v) variant).map writesBytes =
      some (serializeProp stores p v variant) := by
  obtain ⟨size, name, kind⟩ := p
  cases kind <;> cases hs
  case padding =>
    simp only [Generated.entryPropertyWrites, serializeProp, Option.map_some, List.nil_append, writesBytes_bytes, zeros]
  case variantId => simp [Generated.entryPropertyWrites, serializeProp, writesBytes_cons, writesBytes_nil, leBytes_one]
  case uint sz dflt | sint sz dflt | content ps cs dflt =>
    cases dflt with
    | none => simp [Generated.entryPropertyWrites, entryValueOf, serializeProp, writesBytes_cons, writesBytes_nil, leBytesInt]
    | some d => simp [Generated.entryPropertyWrites, entryValueOf, serializeProp, writesBytes_cons, writesBytes_nil, hv d rfl]
  case array lenSize fixed dep dflt =>
    obtain ⟨hd, hf⟩ := hv
    cases dep with
    | none => simp at hd
    | some d =>
      cases lenSize with
      | none =>
        obtain rfl : fixed = 0 := hf rfl
        simp [Generated.entryPropertyWrites, entryValueOf, serializeProp, writesBytes_cons, writesBytes_nil]
      | some ls =>
        simp only [Generated.entryPropertyWrites, entryValueOf, serializeProp, Option.map_some, List.nil_append,
          writesBytes_append, writesBytes_bytes, writesBytes_cons, writesBytes_nil, List.append_nil, zeros, Option.getD_some,
          List.append_assoc]

/-- the (property, value) pairs `serialize_entry` goes through: padding and variant id take no value -/
def pairProps : List RawProp → List Val → List (RawProp × Val)
  | [], _ => []
  | p :: ps, vals =>
    if p.kind = .padding ∨ p.kind = .variantId then (p, .u 0) :: pairProps ps vals
    else
      match vals with
      | [] => (p, .u 0) :: pairProps ps []
      | v :: vs => (p, v) :: pairProps ps vs

theorem serializeProps_eq_pairs (stores : List VStore) (variant : Option Nat) (ps : List RawProp) (vals : List Val) :
    serializeProps stores variant ps vals =
      ((pairProps ps vals).map (fun x => serializeProp stores x.1 x.2 variant)).flatten := by
  fun_induction pairProps ps vals <;> simp_all [serializeProps]

/-- the `for key in keys` loop of `serialize_entry` around the translated per-key body; an error or a panic on
    one key ends the whole call -/
def entryWrites (variant : Option Nat) : List (Generated.SrcProperty × Generated.SrcEntryValue) → Option (List (Nat × Nat))
  | [] => some []
  | kv :: rest =>
    match Generated.entryPropertyWrites kv.1 kv.2 variant with
    | none => none
    | some w =>
      match entryWrites variant rest with
      | none => none
      | some r => some (w ++ r)

def srcPairs (stores : List VStore) (pairs : List (RawProp × Val)) : List (Generated.SrcProperty × Generated.SrcEntryValue) :=
  pairs.filterMap (fun x => x.1.toSrc.map (fun k => (k, entryValueOf stores x.1 x.2)))

theorem valueOK_toSrc (p : RawProp) (v : Val) (h : p.ValueOK v) : ∃ k, p.toSrc = some k := by
  obtain ⟨size, name, kind⟩ := p
  cases kind <;> simp_all [RawProp.toSrc, RawProp.ValueOK]

theorem gen_entryWrites_pairs (stores : List VStore) (variant : Option Nat) (pairs : List (RawProp × Val))
    (h : ∀ x ∈ pairs, x.1.ValueOK x.2) :
    (entryWrites variant (srcPairs stores pairs)).map writesBytes =
      some ((pairs.map (fun x => serializeProp stores x.1 x.2 variant)).flatten) := by
  induction pairs with
  | nil => rfl
  | cons x xs ih =>
    have hx := h x List.mem_cons_self
    obtain ⟨k, hk⟩ := valueOK_toSrc x.1 x.2 hx
    obtain ⟨w, hw, h1⟩ := Option.map_eq_some_iff.mp (gen_entryPropertyWrites stores x.1 k x.2 variant hk hx)
    obtain ⟨r, hr, h2⟩ := Option.map_eq_some_iff.mp (ih fun y hy => h y (List.mem_cons_of_mem _ hy))
    have hsp : srcPairs stores (x :: xs) = (k, entryValueOf stores x.1 x.2) :: srcPairs stores xs := by
      simp [srcPairs, hk]
    rw [hsp]
    unfold entryWrites
    simp only [hw, hr, Option.map_some, writesBytes_append, h1, h2, List.map_cons, List.flatten_cons]

/-- **A whole entry**: running the translated per-key body of `serialize_entry` over the keys of the layout,
    in order, with the values the creator holds, never fails and writes exactly the bytes of the model's
    `serializeProps`. -/
theorem gen_serializeProps (stores : List VStore) (variant : Option Nat) (ps : List RawProp) (vals : List Val)
    (h : ∀ x ∈ pairProps ps vals, x.1.ValueOK x.2) :
    (entryWrites variant (srcPairs stores (pairProps ps vals))).map writesBytes =
      some (serializeProps stores variant ps vals) := by
  rw [serializeProps_eq_pairs]
  exact gen_entryWrites_pairs stores variant _ h

end Jubako
