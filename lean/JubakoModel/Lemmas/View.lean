/- Views and streams (Model/View.lean): what a cut denotes, what one read and any sequence of reads deliver. -/
import JubakoModel.Model.View
import JubakoModel.Lemmas.Slice

namespace Jubako

namespace View

variable {v : View} {off sz : Nat}

theorem bytes_length (hw : v.WF) : v.bytes.length = v.size := by
  obtain ⟨h1, h2⟩ := hw
  exact slice_length (by rw [Region.size]; omega)

theorem cut_bytes (hw : v.WF) (hc : v.r.CutOk off sz) : (v.cut off sz).bytes = slice v.bytes off sz := by
  obtain ⟨h1, h2⟩ := hw
  unfold Region.CutOk at hc
  simp only [bytes, cut, Region.cutRel, Region.size]
  rw [slice_slice (by omega)]
  congr 1; omega

theorem cut_WF (hw : v.WF) (hc : v.r.CutOk off sz) : (v.cut off sz).WF := by
  obtain ⟨h1, h2⟩ := hw
  unfold Region.CutOk at hc
  simp only [WF, cut, Region.cutRel]; omega

theorem cut_size : (v.cut off sz).size = sz := by
  simp only [size, cut, Region.cutRel, Region.size]; omega

end View

namespace Stream

theorem read_spec (s : Stream) (n short : Nat) :
    ∃ k, s.read n short = (slice s.src s.cur k, { s with cur := s.cur + k }) ∧
      k ≤ n ∧ k ≤ s.r.e - s.cur ∧ k ≤ s.src.length - s.cur ∧
      (0 < n → 0 < s.r.e - s.cur → 0 < s.src.length - s.cur → 0 < k) := by
  unfold Stream.read
  simp only
  -- as atoms for `omega`, which already has the nested `min`s to split on
  generalize s.r.e - s.cur = a
  generalize s.src.length - s.cur = b
  split
  · exact ⟨_, rfl, by omega⟩
  · exact ⟨_, rfl, by omega⟩

/-- stream invariant: cursor inside the region, region inside the source -/
def WF (s : Stream) : Prop := s.r.b ≤ s.cur ∧ s.cur ≤ s.r.e ∧ s.r.e ≤ s.src.length

theorem drain_spec (s : Stream) (hw : s.WF) (reqs : List (Nat × Nat)) :
    (s.drain reqs).2.WF ∧ (s.drain reqs).2.src = s.src ∧ (s.drain reqs).2.r = s.r ∧
    s.cur ≤ (s.drain reqs).2.cur ∧
    (s.drain reqs).1 = slice s.src s.cur ((s.drain reqs).2.cur - s.cur) := by
  induction reqs generalizing s with
  | nil => exact ⟨hw, rfl, rfl, Nat.le_refl _, by rw [Stream.drain, Nat.sub_self]; rfl⟩
  | cons q rest ih =>
    obtain ⟨k, e, -, hk, -, -⟩ := s.read_spec q.1 q.2
    obtain ⟨h1, h2, h3⟩ := hw
    obtain ⟨hw2, hsrc, hr, hle, hmore⟩ :=
      ih { s with cur := s.cur + k } ⟨Nat.le_add_right_of_le h1, show s.cur + k ≤ s.r.e by omega, h3⟩
    simp only [Stream.drain, e]
    simp only at hle hmore
    refine ⟨hw2, hsrc, hr, by omega, ?_⟩
    rw [hmore, ← slice_add_len]
    congr 1; omega

end Stream

theorem View.stream_WF {v : View} (hw : v.WF) : v.stream.WF := by
  obtain ⟨h1, h2⟩ := hw
  simp only [Stream.WF, View.stream]; omega

end Jubako
