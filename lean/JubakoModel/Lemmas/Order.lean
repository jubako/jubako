/-
Writer order = reader order for array keys (C03).  `lexCmp` is the library's lexicographic `compare`
on the byte values; a finalised value store is strictly sorted in it; the id of a value is its index
there (`rankOf` is `List.idxOf`) or the total length before that index, hence monotone; so the
writer's key (prefix, id, length) orders like the bytes.
-/
import JubakoModel.Model.Order
import JubakoModel.Lemmas.Offsets

namespace Jubako

theorem lexCmp_eq_compare (a b : Bytes) :
    lexCmp a b = compare (a.map UInt8.toNat) (b.map UInt8.toNat) := by
  induction a generalizing b with
  | nil => cases b <;> rfl
  | cons x xs ih =>
    cases b with
    | nil => rfl
    | cons y ys => rw [lexCmp, ih, List.map_cons, List.map_cons, List.compare_cons_cons]

theorem lexCmp_refl (a : Bytes) : lexCmp a a = .eq := by
  rw [lexCmp_eq_compare]; exact Std.ReflCmp.compare_self

theorem lexCmp_eq_iff (a b : Bytes) : lexCmp a b = .eq ↔ a = b := by
  rw [lexCmp_eq_compare, Std.compare_eq_iff_eq]
  exact ⟨(List.map_inj_right fun _ _ => UInt8.toNat_inj.1).1, fun h => h ▸ rfl⟩

theorem lexCmp_swap (a b : Bytes) : lexCmp b a = (lexCmp a b).swap := by
  rw [lexCmp_eq_compare, lexCmp_eq_compare]; exact Std.OrientedCmp.eq_swap

theorem lexCmp_ne_gt_iff (a b : Bytes) : lexCmp a b ≠ .gt ↔ lexCmp a b = .lt ∨ a = b := by
  rw [← lexCmp_eq_iff]
  cases lexCmp a b <;> simp

theorem lexCmp_gt_iff (a b : Bytes) : lexCmp a b = .gt ↔ lexCmp b a = .lt := by
  rw [lexCmp_swap a b]
  exact Ordering.swap_eq_lt.symm

theorem lexCmp_lt_irrefl (a : Bytes) : lexCmp a a ≠ .lt := by
  simp [lexCmp_refl]

theorem lexCmp_lt_of_lt_of_le (a b c : Bytes) (h1 : lexCmp a b = .lt) (h2 : lexCmp b c ≠ .gt) :
    lexCmp a c = .lt := by
  rw [lexCmp_eq_compare] at *
  exact Std.TransCmp.lt_of_lt_of_isLE h1 (Ordering.isLE_iff_ne_gt.2 h2)

theorem lexCmp_lt_of_le_of_lt (a b c : Bytes) (h1 : lexCmp a b ≠ .gt) (h2 : lexCmp b c = .lt) :
    lexCmp a c = .lt := by
  rw [lexCmp_eq_compare] at *
  exact Std.TransCmp.lt_of_isLE_of_lt (Ordering.isLE_iff_ne_gt.2 h1) h2

theorem lexCmp_gt_of_le_of_gt (a b c : Bytes) (h1 : lexCmp a b ≠ .gt) (h2 : lexCmp a c = .gt) :
    lexCmp b c = .gt := by
  rw [lexCmp_gt_iff] at h2 ⊢
  exact lexCmp_lt_of_lt_of_le c a b h2 h1

theorem lexCmp_le_trans (a b c : Bytes) (h1 : lexCmp a b ≠ .gt) (h2 : lexCmp b c ≠ .gt) :
    lexCmp a c ≠ .gt := by
  rw [lexCmp_eq_compare] at *
  exact Ordering.isLE_iff_ne_gt.1
    (Std.TransCmp.isLE_trans (Ordering.isLE_iff_ne_gt.2 h1) (Ordering.isLE_iff_ne_gt.2 h2))

/-- totality: `a ≤ b` or `b ≤ a` (`≠ .gt` reads `≤`) -/
theorem lexCmp_total (a b : Bytes) : lexCmp a b ≠ .gt ∨ lexCmp b a ≠ .gt := by
  rw [lexCmp_swap a b]
  cases lexCmp a b <;> simp

theorem lexCmp_take_drop (p : Nat) (a b : Bytes) :
    lexCmp a b = (lexCmp (a.take p) (b.take p)).then (lexCmp (a.drop p) (b.drop p)) := by
  induction p generalizing a b with
  | zero => simp [lexCmp]
  | succ p ih =>
    cases a with
    | nil => cases b <;> simp [lexCmp]
    | cons x xs =>
      cases b with
      | nil => simp [lexCmp]
      | cons y ys =>
        simp only [List.take_succ_cons, List.drop_succ_cons, lexCmp, Ordering.then_assoc]
        rw [← ih xs ys]

theorem arrayCmpWalk_eq_lexCmp (a b : Bytes) : arrayCmpWalk a b = lexCmp a b := by
  fun_induction arrayCmpWalk a b with
  | case4 x xs y ys h => rw [lexCmp, Nat.compare_eq_lt.2 h]; rfl
  | case5 x xs y ys _ h => rw [lexCmp, Nat.compare_eq_gt.2 h]; rfl
  | case6 x xs y ys h h' ih => rw [lexCmp, Nat.compare_eq_eq.2 (by omega), ih]; rfl
  | _ => rfl

theorem lexInsert_perm (x : Bytes) (l : List Bytes) : (lexInsert x l).Perm (x :: l) := by
  induction l with
  | nil => simp [lexInsert]
  | cons y ys ih =>
    simp only [lexInsert]
    split
    · exact (List.Perm.cons y ih).trans (List.Perm.swap x y ys)
    · exact List.Perm.refl _

theorem mem_lexInsert (x z : Bytes) (l : List Bytes) : z ∈ lexInsert x l ↔ z = x ∨ z ∈ l := by
  rw [(lexInsert_perm x l).mem_iff]; simp

theorem lexSort_cons (x : Bytes) (l : List Bytes) : lexSort (x :: l) = lexInsert x (lexSort l) := rfl

theorem lexSort_perm (l : List Bytes) : (lexSort l).Perm l := by
  induction l with
  | nil => exact List.Perm.refl _
  | cons x xs ih =>
    rw [lexSort_cons]
    exact (lexInsert_perm x _).trans (List.Perm.cons x ih)

theorem mem_lexSort (l : List Bytes) (x : Bytes) : x ∈ lexSort l ↔ x ∈ l :=
  (lexSort_perm l).mem_iff

theorem lexLe_iff (a b : Bytes) : lexLe a b = true ↔ lexCmp a b ≠ .gt := by
  simp [lexLe]

theorem lexInsert_sorted (x : Bytes) (l : List Bytes)
    (h : l.Pairwise (fun a b => lexCmp a b ≠ .gt)) :
    (lexInsert x l).Pairwise (fun a b => lexCmp a b ≠ .gt) := by
  induction l with
  | nil => simp [lexInsert]
  | cons y ys ih =>
    obtain ⟨hy, hys⟩ := List.pairwise_cons.1 h
    rw [lexInsert]
    split
    · next hle =>
      refine List.pairwise_cons.2 ⟨fun z hz => ?_, ih hys⟩
      rcases (mem_lexInsert x z ys).1 hz with rfl | hz
      · exact (lexLe_iff y z).1 hle
      · exact hy z hz
    · next hle =>
      -- `x < y`, and `y` is below the rest
      have hlt : lexCmp x y = .lt := (lexCmp_gt_iff y x).1 (by simpa [lexLe] using hle)
      refine List.pairwise_cons.2 ⟨fun z hz => ?_, h⟩
      rcases List.mem_cons.1 hz with rfl | hz
      · simp [hlt]
      · simp [lexCmp_lt_of_lt_of_le x y z hlt (hy z hz)]

theorem lexSort_sorted (l : List Bytes) : (lexSort l).Pairwise (fun a b => lexCmp a b ≠ .gt) := by
  induction l with
  | nil => simp [lexSort]
  | cons x xs ih => rw [lexSort_cons]; exact lexInsert_sorted x _ ih

theorem mem_dedupAdj (l : List Bytes) (x : Bytes) : x ∈ dedupAdj l ↔ x ∈ l := by
  fun_induction dedupAdj l with
  | case1 => simp
  | case2 => simp
  | case3 a rest ih => rw [ih]; simp
  | case4 a b rest hab ih => rw [List.mem_cons, ih]; simp

theorem dedupAdj_sorted_nodup (l : List Bytes) (h : l.Pairwise (fun a b => lexCmp a b ≠ .gt)) :
    (dedupAdj l).Pairwise (fun a b => lexCmp a b = .lt) := by
  fun_induction dedupAdj l with
  | case1 => simp
  | case2 => simp
  | case3 a rest ih => exact ih (List.pairwise_cons.1 h).2
  | case4 a b rest hab ih =>
    rw [List.pairwise_cons] at h
    have hab' : lexCmp a b = .lt := ((lexCmp_ne_gt_iff a b).1 (h.1 b (by simp))).resolve_right hab
    rw [List.pairwise_cons]
    refine ⟨?_, ih h.2⟩
    intro z hz
    rw [mem_dedupAdj] at hz
    rcases List.mem_cons.1 hz with hz | hz
    · subst hz; exact hab'
    · exact lexCmp_lt_of_lt_of_le a b z hab' ((List.pairwise_cons.1 h.2).1 z hz)

theorem mem_dedupFirst (l : List Bytes) (x : Bytes) : x ∈ dedupFirst l ↔ x ∈ l := by
  induction l with
  | nil => simp [dedupFirst]
  | cons y ys ih =>
    simp only [dedupFirst, List.mem_cons, List.mem_filter, ih, bne_iff_ne, ne_eq]
    by_cases hxy : x = y <;> simp [hxy]

theorem dedupFirst_nodup (l : List Bytes) : (dedupFirst l).Nodup := by
  induction l with
  | nil => simp [dedupFirst]
  | cons y ys ih =>
    simp only [dedupFirst, List.nodup_cons]
    refine ⟨?_, ih.sublist List.filter_sublist⟩
    simp [List.mem_filter]

theorem VStore.finalize_strict (indexed : Bool) (added : List Bytes) :
    (VStore.finalize indexed added).values.Pairwise (fun a b => lexCmp a b = .lt) := by
  cases indexed with
  | true =>
    simp only [VStore.finalize, if_true]
    refine ((lexSort_sorted _).and ((lexSort_perm _).nodup_iff.2 (dedupFirst_nodup added))).imp ?_
    intro a b hab
    exact ((lexCmp_ne_gt_iff a b).1 hab.1).resolve_right hab.2
  | false =>
    simp only [VStore.finalize, Bool.false_eq_true, if_false]
    exact dedupAdj_sorted_nodup _ (lexSort_sorted _)

theorem VStore.mem_finalize (indexed : Bool) (added : List Bytes) (x : Bytes) :
    x ∈ (VStore.finalize indexed added).values ↔ x ∈ added := by
  cases indexed with
  | true => simp [VStore.finalize, mem_lexSort, mem_dedupFirst]
  | false => simp [VStore.finalize, mem_lexSort, mem_dedupAdj]

theorem VStore.finalize_indexed (indexed : Bool) (added : List Bytes) :
    (VStore.finalize indexed added).indexed = indexed := by
  cases indexed <;> simp [VStore.finalize]

theorem idxOf_cons_ne {α} [BEq α] [LawfulBEq α] {x y : α} (l : List α) (h : y ≠ x) :
    (y :: l).idxOf x = l.idxOf x + 1 := by
  rw [List.idxOf_cons, beq_false_of_ne h, cond_false]

theorem rankOf_eq (x : Bytes) (l : List Bytes) (acc : Nat) : rankOf x l acc = acc + l.idxOf x := by
  induction l generalizing acc with
  | nil => rfl
  | cons y ys ih =>
    rw [rankOf]
    split
    · next h => rw [h, List.idxOf_cons_self]; rfl
    · next h => rw [ih, idxOf_cons_ne _ h, Nat.add_right_comm, Nat.add_assoc]

theorem offsetOf_eq (x : Bytes) (l : List Bytes) (acc : Nat) :
    offsetOf x l acc = acc + lenSum (l.take (l.idxOf x)) := by
  induction l generalizing acc with
  | nil => rfl
  | cons y ys ih =>
    rw [offsetOf]
    split
    · next h => rw [h, List.idxOf_cons_self]; rfl
    · next h => rw [ih, idxOf_cons_ne _ h, List.take_succ_cons, lenSum_cons, Nat.add_assoc]

theorem VStore.idOf_eq (s : VStore) (x : Bytes) :
    s.idOf x = if s.indexed then s.values.idxOf x else lenSum (s.values.take (s.values.idxOf x)) := by
  rw [VStore.idOf, rankOf_eq, offsetOf_eq, Nat.zero_add, Nat.zero_add]

/-- a comparator `d` that answers `lt` wherever the order `c` does agrees with `c` -/
theorem cmp_eq_of_lt_imp_lt {α} {c d : α → α → Ordering} {P : α → Prop}
    (cswap : ∀ a b, c b a = (c a b).swap) (ceq : ∀ a b, c a b = .eq → a = b)
    (dswap : ∀ a b, d b a = (d a b).swap)
    (h : ∀ a b, P a → P b → c a b = .lt → d a b = .lt) {a b : α} (ha : P a) (hb : P b) :
    d a b = c a b := by
  cases hc : c a b with
  | lt => exact h a b ha hb hc
  | eq =>
    cases ceq a b hc
    -- an ordering that is its own swap is `eq`
    have := dswap a a
    revert this
    generalize d a a = o
    cases o <;> decide
  | gt =>
    have := h b a hb ha (by rw [cswap, hc]; rfl)
    rw [dswap a b] at this
    exact Ordering.swap_eq_lt.1 this

theorem idxOf_lt_of_lexCmp_lt {vals : List Bytes} (hs : vals.Pairwise (fun a b => lexCmp a b = .lt))
    {x y : Bytes} (hx : x ∈ vals) (hy : y ∈ vals) (hxy : lexCmp x y = .lt) :
    vals.idxOf x < vals.idxOf y := by
  have hi := List.idxOf_lt_length_of_mem hx
  have hj := List.idxOf_lt_length_of_mem hy
  apply Nat.lt_of_not_le
  intro hle
  rcases Nat.lt_or_eq_of_le hle with h | h
  · have := List.pairwise_iff_getElem.mp hs _ _ hj hi h
    rw [List.getElem_idxOf, List.getElem_idxOf, lexCmp_swap, hxy] at this
    cases this
  · have : vals[vals.idxOf y] = vals[vals.idxOf x] := by simp only [h]
    rw [List.getElem_idxOf, List.getElem_idxOf] at this
    rw [this, lexCmp_refl] at hxy
    cases hxy

theorem VStore.compare_idOf {s : VStore} (hs : s.values.Pairwise (fun a b => lexCmp a b = .lt))
    (hi : s.indexed = true) {x y : Bytes} (hx : x ∈ s.values) (hy : y ∈ s.values) :
    compare (s.idOf x) (s.idOf y) = lexCmp x y := by
  rw [VStore.idOf_eq, VStore.idOf_eq, hi, if_pos rfl, if_pos rfl]
  exact cmp_eq_of_lt_imp_lt (P := (· ∈ s.values)) lexCmp_swap (fun a b => (lexCmp_eq_iff a b).1)
    (fun _ _ => (Nat.compare_swap _ _).symm)
    (fun _ _ ha hb h => Nat.compare_eq_lt.2 (idxOf_lt_of_lexCmp_lt hs ha hb h)) hx hy

/-- a smaller value ends before a larger one starts -/
theorem VStore.idOf_add_length_le {s : VStore} (hs : s.values.Pairwise (fun a b => lexCmp a b = .lt))
    (hi : s.indexed = false) {x y : Bytes} (hx : x ∈ s.values) (hy : y ∈ s.values)
    (hxy : lexCmp x y = .lt) : s.idOf x + x.length ≤ s.idOf y := by
  rw [VStore.idOf_eq, VStore.idOf_eq, hi, if_neg Bool.false_ne_true, if_neg Bool.false_ne_true]
  have hk := List.idxOf_lt_length_of_mem hx
  have h := (flatten_segment s.values _ hk).1
  rw [List.getElem_idxOf hk] at h
  rw [← h]
  exact lenSum_take_mono s.values (idxOf_lt_of_lexCmp_lt hs hx hy hxy)

/-- `k` is the length of the inline prefix -/
theorem idKey_eq_lexCmp (s : VStore) (hs : s.values.Pairwise (fun a b => lexCmp a b = .lt))
    (x y : Bytes) (hx : x ∈ s.values) (hy : y ∈ s.values) (k : Nat) :
    (compare (s.idOf x) (s.idOf y)).then (compare (k + x.length) (k + y.length)) = lexCmp x y := by
  refine cmp_eq_of_lt_imp_lt (P := (· ∈ s.values))
    (d := fun x y => (compare (s.idOf x) (s.idOf y)).then (compare (k + x.length) (k + y.length)))
    lexCmp_swap (fun a b => (lexCmp_eq_iff a b).1)
    (fun _ _ => by rw [Ordering.swap_then, Nat.compare_swap, Nat.compare_swap]) ?_ hx hy
  intro a b ha hb hab
  cases hi : s.indexed with
  | true => rw [VStore.compare_idOf hs hi ha hb, hab]; rfl
  | false =>
    -- equal offsets: `a` is empty and `b` is not (the first two stored values); the length decides
    have h := VStore.idOf_add_length_le hs hi ha hb hab
    have h0 : a.length = 0 → 0 < b.length := fun h0 => List.length_pos_iff.2 fun hb => by
      rw [List.eq_nil_of_length_eq_zero h0, hb, lexCmp_refl] at hab; cases hab
    rw [Ordering.then_eq_lt, Nat.compare_eq_lt, Nat.compare_eq_eq, Nat.compare_eq_lt]
    omega

/-- behind `c03_writer_order_is_reader_order`, over any strictly sorted store -/
theorem writerArrCmp_eq_lexCmp (s : VStore) (hs : s.values.Pairwise (fun a b => lexCmp a b = .lt))
    (fixed : Nat) (a b : Bytes) (ha : a.drop fixed ∈ s.values) (hb : b.drop fixed ∈ s.values) :
    writerArrCmp s fixed a b = lexCmp a b := by
  rw [lexCmp_take_drop fixed a b, writerArrCmp]
  cases hp : lexCmp (a.take fixed) (b.take fixed) with
  | lt => rfl
  | gt => rfl
  | eq =>
    -- equal prefixes: the total lengths differ as the lengths of the rests do
    have hla := List.length_append ▸ congrArg List.length (List.take_append_drop fixed a)
    have hlb := List.length_append ▸ congrArg List.length (List.take_append_drop fixed b)
    rw [← hla, ← hlb, ← (lexCmp_eq_iff _ _).1 hp]
    exact idKey_eq_lexCmp s hs _ _ ha hb _

theorem sortedCheck_congr {α} {c c' : α → α → Ordering} (l : List α)
    (h : ∀ a ∈ l, ∀ b ∈ l, c a b = c' a b) : sortedCheck c l = sortedCheck c' l := by
  induction l with
  | nil => rfl
  | cons x rest ih =>
    cases rest with
    | nil => rfl
    | cons y rest' =>
      rw [sortedCheck, sortedCheck,
        ih fun a ha b hb => h a (List.mem_cons_of_mem _ ha) b (List.mem_cons_of_mem _ hb),
        h x List.mem_cons_self y (List.mem_cons_of_mem _ List.mem_cons_self)]

/-- the statement of `c03_stored_order`, here because the file level needs it -/
theorem stored_order (indexed : Bool) (added : List Bytes) (fixed : Nat) (out : List Bytes)
    (hmem : ∀ a ∈ out, a.drop fixed ∈ added)
    (hchk : sortedCheck (writerArrCmp (VStore.finalize indexed added) fixed) out = true) :
    sortedCheck lexCmp out = true := by
  rw [← hchk]
  refine (sortedCheck_congr out fun a ha b hb => ?_).symm
  exact writerArrCmp_eq_lexCmp _ (VStore.finalize_strict indexed added) fixed a b
    ((VStore.mem_finalize indexed added _).2 (hmem a ha)) ((VStore.mem_finalize indexed added _).2 (hmem b hb))

end Jubako
