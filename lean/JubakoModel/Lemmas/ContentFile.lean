/-
The bytes `contentPackWrite` produces, segment by segment, and what the reader finds in them before
it looks at a cluster: both headers, the two tables, and where each cluster and its pointer sit.
They are a `framePack` whose header describes the layout (`PackHeader.Frames`): what C04 needs.
-/
import JubakoModel.Lemmas.Cluster
import JubakoModel.Lemmas.Frame

namespace Jubako

def cfPtrData (codec : Codec) (arrival : List Cluster) : Bytes :=
  ((List.range arrival.length).map (fun i =>
    sizedOffsetEncode (lookupAddr (cfAddrs codec arrival 128) i).1
      (lookupAddr (cfAddrs codec arrival 128) i).2)).flatten

def cfInfoData (infos : List (Nat × Nat)) : Bytes :=
  (infos.map (fun i => contentInfoEncode i.1 i.2)).flatten

def cfClusterPtrPos (codec : Codec) (arrival : List Cluster) : Nat :=
  128 + (cfBytes codec arrival).length

def cfContentPtrPos (codec : Codec) (arrival : List Cluster) : Nat :=
  cfClusterPtrPos codec arrival + (block (cfPtrData codec arrival)).length

def cfCheckPos (codec : Codec) (arrival : List Cluster) (infos : List (Nat × Nat)) : Nat :=
  cfContentPtrPos codec arrival + (block (cfInfoData infos)).length

def cfCH (codec : Codec) (m : ContentPackMeta) (arrival : List Cluster) (infos : List (Nat × Nat)) :
    ContentHeader :=
  ⟨cfContentPtrPos codec arrival, cfClusterPtrPos codec arrival, infos.length, arrival.length,
    m.freeData⟩

def cfHeader (codec : Codec) (m : ContentPackMeta) (arrival : List Cluster)
    (infos : List (Nat × Nat)) : PackHeader :=
  ⟨PackKind.content, m.vendor, Consts.versionMajor, Consts.versionMinor, m.uuid, 0,
    cfCheckPos codec arrival infos + 37 + 64, cfCheckPos codec arrival infos⟩

def cfTrailer (H : Bytes → Bytes) (codec : Codec) (m : ContentPackMeta) (arrival : List Cluster)
    (infos : List (Nat × Nat)) : Bytes :=
  block (CheckInfo.blake3 (H (block (cfHeader codec m arrival infos).encode ++
    (block (cfCH codec m arrival infos).encode ++ cfBytes codec arrival ++
      block (cfPtrData codec arrival) ++ block (cfInfoData infos))))).encode ++
  (block (cfHeader codec m arrival infos).encode).reverse

theorem contentPackWrite_eq (H : Bytes → Bytes) (codec : Codec) (m : ContentPackMeta)
    (arrival : List Cluster) (infos : List (Nat × Nat)) :
    contentPackWrite H codec m arrival infos =
      block (cfHeader codec m arrival infos).encode ++
        (block (cfCH codec m arrival infos).encode ++ (cfBytes codec arrival ++
          (block (cfPtrData codec arrival) ++ (block (cfInfoData infos) ++
            cfTrailer H codec m arrival infos)))) := by
  unfold contentPackWrite
  rw [layoutClusters_eq]
  simp only [framePack, packTail, cfTrailer, cfHeader, cfCH, cfCheckPos, cfContentPtrPos,
    cfClusterPtrPos, cfPtrData, cfInfoData, List.append_assoc, id]

theorem cfInfoData_length (infos : List (Nat × Nat)) :
    (cfInfoData infos).length = 4 * infos.length :=
  flatten_fixed_length infos _ 4 (fun x => contentInfoEncode_length x.1 x.2)

theorem cfInfoData_slice (infos : List (Nat × Nat)) (i : Nat) (hi : i < infos.length) :
    slice (cfInfoData infos) (4 * i) 4 = contentInfoEncode infos[i].1 infos[i].2 := by
  rw [Nat.mul_comm]
  exact slice_flatten_fixed_mem infos _ 4 (fun x _ => contentInfoEncode_length x.1 x.2) i hi

theorem cfPtrData_length (codec : Codec) (arrival : List Cluster) :
    (cfPtrData codec arrival).length = 8 * arrival.length := by
  unfold cfPtrData
  rw [flatten_fixed_length _ _ 8 (fun _ => sizedOffsetEncode_length _ _), List.length_range]

theorem cfPtrData_slice (codec : Codec) (arrival : List Cluster) (cl : Nat)
    (hcl : cl < arrival.length) :
    slice (cfPtrData codec arrival) (8 * cl) 8 =
      sizedOffsetEncode (lookupAddr (cfAddrs codec arrival 128) cl).1
        (lookupAddr (cfAddrs codec arrival 128) cl).2 := by
  have hr : cl < (List.range arrival.length).length := by rw [List.length_range]; exact hcl
  unfold cfPtrData
  rw [Nat.mul_comm, slice_flatten_fixed_mem _ _ 8 (fun _ _ => sizedOffsetEncode_length _ _) cl hr, List.getElem_range]

theorem ContentHeader.encode_length (h : ContentHeader) (hf : h.freeData.length = 24) :
    h.encode.length = 60 := by
  simp [ContentHeader.encode, leBytes_length, zeros_length, hf]

theorem ContentHeader.decode_encode (h : ContentHeader) (h1 : h.contentPtrPos < 2 ^ 64)
    (h2 : h.clusterPtrPos < 2 ^ 64) (h3 : h.contentCount < 2 ^ 32) (h4 : h.clusterCount < 2 ^ 32)
    (hf : h.freeData.length = 24) : ContentHeader.decode h.encode = .ok h := by
  rw [ContentHeader.decode, if_neg (by rw [ContentHeader.encode_length h hf]; omega)]
  seg_simp [ContentHeader.encode, List.append_assoc, hf]
  rw [leNat_leBytes_of_lt _ 8 h1, leNat_leBytes_of_lt _ 8 h2, leNat_leBytes_of_lt _ 4 h3,
    leNat_leBytes_of_lt _ 4 h4]

/-- field sizes the pack header / content header encodings require -/
def ContentPackMeta.WF (m : ContentPackMeta) : Prop :=
  m.vendor.length = 4 ∧ m.uuid.length = 16 ∧ m.freeData.length = 24

theorem cfHeader_WF (codec : Codec) (m : ContentPackMeta) (arrival : List Cluster)
    (infos : List (Nat × Nat)) (hm : m.WF)
    (hs : cfCheckPos codec arrival infos + 37 + 64 < 2 ^ 64) :
    (cfHeader codec m arrival infos).WF :=
  PackHeader.WF_written _ _ _ _ _ hm.1 hm.2.1 hs (by omega)

theorem cfCheckPos_eq (codec : Codec) (arrival : List Cluster) (infos : List (Nat × Nat)) :
    cfCheckPos codec arrival infos =
      128 + (cfBytes codec arrival).length + (8 * arrival.length + 4) + (4 * infos.length + 4) := by
  simp only [cfCheckPos, cfContentPtrPos, cfClusterPtrPos, block_length, cfPtrData_length,
    cfInfoData_length]

theorem contentPackWrite_length (H : Bytes → Bytes) (codec : Codec) (m : ContentPackMeta)
    (arrival : List Cluster) (infos : List (Nat × Nat)) (hm : m.WF) :
    (contentPackWrite H codec m arrival infos).length =
      cfCheckPos codec arrival infos + (cfTrailer H codec m arrival infos).length := by
  have hel := PackHeader.encode_length' (cfHeader codec m arrival infos) hm.1 hm.2.1
  rw [contentPackWrite_eq, cfCheckPos_eq]
  simp only [List.length_append, block_length, hel,
    ContentHeader.encode_length (cfCH codec m arrival infos) hm.2.2, cfPtrData_length,
    cfInfoData_length]
  omega

/-- `37`, `64`: the check block and the mirrored header block, as in `PackHeader.Frames` -/
theorem cfTrailer_length (H : Bytes → Bytes) (codec : Codec) (m : ContentPackMeta)
    (arrival : List Cluster) (infos : List (Nat × Nat)) (hm : m.WF) (hH : ∀ x, (H x).length = 32) :
    (cfTrailer H codec m arrival infos).length = 37 + 64 := by
  simp only [cfTrailer, List.length_append, List.length_reverse, block_length, CheckInfo.encode,
    List.length_cons, hH, PackHeader.encode_length' (cfHeader codec m arrival infos) hm.1 hm.2.1]

theorem cfCheckPos_le_length (H : Bytes → Bytes) (codec : Codec) (m : ContentPackMeta)
    (arrival : List Cluster) (infos : List (Nat × Nat)) (hm : m.WF) :
    cfCheckPos codec arrival infos ≤ (contentPackWrite H codec m arrival infos).length := by
  rw [contentPackWrite_length H codec m arrival infos hm]; omega

theorem contentPackWrite_frame (H : Bytes → Bytes) (codec : Codec) (m : ContentPackMeta)
    (arrival : List Cluster) (infos : List (Nat × Nat)) :
    contentPackWrite H codec m arrival infos =
      framePack H id (cfHeader codec m arrival infos)
        (block (cfCH codec m arrival infos).encode ++ (cfBytes codec arrival ++
          (block (cfPtrData codec arrival) ++ block (cfInfoData infos)))) := by
  rw [contentPackWrite_eq]
  simp only [framePack, packTail, cfTrailer, id, List.append_assoc]

theorem cfHeader_frames (codec : Codec) (m : ContentPackMeta) (arrival : List Cluster)
    (infos : List (Nat × Nat)) (hm : m.WF) (hs : cfCheckPos codec arrival infos + 37 + 64 < 2 ^ 64) :
    (cfHeader codec m arrival infos).Frames
      (block (cfCH codec m arrival infos).encode ++ (cfBytes codec arrival ++
        (block (cfPtrData codec arrival) ++ block (cfInfoData infos)))) := by
  refine ⟨cfHeader_WF codec m arrival infos hm hs, ⟨rfl, rfl⟩, ?_, rfl⟩
  show cfCheckPos codec arrival infos = _
  rw [cfCheckPos_eq]
  simp only [List.length_append, block_length,
    ContentHeader.encode_length (cfCH codec m arrival infos) hm.2.2, cfPtrData_length,
    cfInfoData_length]
  omega

/-- `ContentPack::new` on any file with these four blocks, as `DirIn.Blocks.opens` for `DirectoryPack::new` -/
theorem contentOpen_of_blocks {f : Bytes} (h : PackHeader) (ch : ContentHeader)
    (hh : readBlock f 0 60 = .ok h.encode) (hw : h.WF)
    (hv : h.major = Consts.versionGateMajor ∧ h.minor = Consts.versionGateMinor) (hk : h.kind = .content)
    (hcb : readBlock f 64 60 = .ok ch.encode)
    (h1 : ch.contentPtrPos < 2 ^ 64) (h2 : ch.clusterPtrPos < 2 ^ 64) (h3 : ch.contentCount < 2 ^ 32)
    (h4 : ch.clusterCount < 2 ^ 32) (hf : ch.freeData.length = 24) {t1 t2 : Bytes}
    (ht1 : readBlock f ch.contentPtrPos (4 * ch.contentCount) = .ok t1)
    (ht2 : readBlock f ch.clusterPtrPos (8 * ch.clusterCount) = .ok t2) :
    contentOpen f = .ok (h, ch) := by
  unfold contentOpen
  rw [← hk, openHeader_of_block h hh hw hv, Outcome.ok_bind, hcb, Outcome.ok_bind,
    ContentHeader.decode_encode ch h1 h2 h3 h4 hf, Outcome.ok_bind, ht1, Outcome.ok_bind, ht2,
    Outcome.ok_bind]

theorem contentOpen_contentPackWrite (H : Bytes → Bytes) (codec : Codec) (m : ContentPackMeta)
    (arrival : List Cluster) (infos : List (Nat × Nat)) (hm : m.WF)
    (hc1 : infos.length < 2 ^ 32) (hc2 : arrival.length < 2 ^ 32)
    (hs : cfCheckPos codec arrival infos + 37 + 64 < 2 ^ 64) :
    contentOpen (contentPackWrite H codec m arrival infos) =
        .ok (cfHeader codec m arrival infos, cfCH codec m arrival infos) ∧
    readBlock (contentPackWrite H codec m arrival infos) (cfContentPtrPos codec arrival)
        (4 * infos.length) = .ok (cfInfoData infos) ∧
    readBlock (contentPackWrite H codec m arrival infos) (cfClusterPtrPos codec arrival)
        (8 * arrival.length) = .ok (cfPtrData codec arrival) := by
  have hWF := cfHeader_WF codec m arrival infos hm hs
  have hel := PackHeader.encode_length _ hWF
  have hcl := ContentHeader.encode_length (cfCH codec m arrival infos) hm.2.2
  -- the walk: `cfClusterPtrPos` and `cfContentPtrPos` are the writer's running sums
  have c0 := contentPackWrite_eq H codec m arrival infos
  generalize contentPackWrite H codec m arrival infos = f at c0 ⊢
  have c1 : f.drop 64 = _ := drop_skip_len (p := 0) c0 (by rw [block_length, hel])
  have c2 : f.drop (cfClusterPtrPos codec arrival) = _ :=
    drop_skip (drop_skip_len (k := 64) c1 (by rw [block_length, hcl]))
  have ht1 := readBlock_of_drop (p := cfContentPtrPos codec arrival) (drop_skip c2) (cfInfoData_length infos)
  have ht2 := readBlock_of_drop c2 (cfPtrData_length codec arrival)
  simp only [cfCheckPos, cfContentPtrPos] at hs
  exact ⟨contentOpen_of_blocks _ (cfCH codec m arrival infos) (readBlock_of_drop c0 hel) hWF ⟨rfl, rfl⟩ rfl
    (readBlock_of_drop c1 hcl)
    (by show cfContentPtrPos codec arrival < 2 ^ 64; rw [cfContentPtrPos]; omega)
    (by show cfClusterPtrPos codec arrival < 2 ^ 64; omega) hc1 hc2 hm.2.2 ht1 ht2, ht1, ht2⟩

theorem cluster_in_file (H : Bytes → Bytes) (codec : Codec) (m : ContentPackMeta) (hm : m.WF)
    (arrival : List Cluster) (infos : List (Nat × Nat))
    (hnd : (arrival.map (·.idx)).Nodup) (c : Cluster) (hc : c ∈ arrival) :
    ∃ p Z, (contentPackWrite H codec m arrival infos).drop p =
        c.payload codec ++ (block (c.storedTail codec).encode ++ Z) ∧
      lookupAddr (cfAddrs codec arrival 128) c.idx =
        (p + (c.payload codec).length, (c.storedTail codec).encode.length) := by
  obtain ⟨l1, l2, rfl⟩ := List.append_of_mem hc
  rw [List.map_append, List.map_cons, List.nodup_append] at hnd
  have hne : ∀ x ∈ l1, x.idx ≠ c.idx := fun x hx =>
    hnd.2.2 x.idx (List.mem_map_of_mem hx) c.idx (List.mem_cons_self ..)
  have hel := PackHeader.encode_length' (cfHeader codec m (l1 ++ c :: l2) infos) hm.1 hm.2.1
  have hcl := ContentHeader.encode_length (cfCH codec m (l1 ++ c :: l2) infos) hm.2.2
  have c0 := contentPackWrite_eq H codec m (l1 ++ c :: l2) infos
  generalize contentPackWrite H codec m (l1 ++ c :: l2) infos = f at c0 ⊢
  have c1 : f.drop 64 = _ := drop_skip_len (p := 0) c0 (by rw [block_length, hel])
  have c2 : f.drop 128 = _ := drop_skip_len (k := 64) c1 (by rw [block_length, hcl])
  rw [cfBytes_append, cfBytes_cons, Cluster.encode_eq, List.append_assoc, List.append_assoc,
    List.append_assoc] at c2
  exact ⟨_, _, drop_skip c2, lookupAddr_cfAddrs codec l1 c l2 128 hne⟩

/-- the reader's decompressor built from the codec.  The real reader selects the algorithm by the
    compression byte of the tail; this one ignores the byte: the model has one codec per pack -/
def Codec.decompress' (codec : Codec) : Nat → Bytes → Option Bytes := fun _ => codec.decompress

/-! A concrete pack; continued in Verbatim.lean, where `ContentLimits` exists. -/

namespace ContentFileExample

/-- a codec that is not the identity -/
def codec : Codec := ⟨1, List.reverse, fun b => some b.reverse⟩
def pmeta : ContentPackMeta := ⟨[1, 2, 3, 4], List.replicate 16 7, List.replicate 24 9⟩
/-- a raw cluster with two blobs (one empty) and a compressed cluster -/
def items : List Item := [⟨[1, 2], false⟩, ⟨[3, 4, 5], true⟩, ⟨[], false⟩]
def hash : Bytes → Bytes := fun _ => List.replicate 32 0
/-- the clusters reach the writer in the reverse of the hand-over order -/
def arrival : List Cluster := ((Creator.init.addAll items).finalize).1.reverse

theorem codec_sound : codec.Sound := by intro d; simp [codec]
theorem pmeta_wf : pmeta.WF := ⟨rfl, rfl, rfl⟩
theorem arrival_perm : arrival.Perm ((Creator.init.addAll items).finalize).1 := List.reverse_perm _
theorem arrival_not_identity : arrival ≠ ((Creator.init.addAll items).finalize).1 := by decide

theorem size_ok :
    (contentPackWrite hash codec pmeta arrival ((Creator.init.addAll items).finalize).2).length
      < 2 ^ 48 := by
  rw [contentPackWrite_length _ _ _ _ _ pmeta_wf, cfTrailer_length _ _ _ _ _ pmeta_wf fun _ => rfl,
    cfCheckPos_eq]
  decide

end ContentFileExample

end Jubako
