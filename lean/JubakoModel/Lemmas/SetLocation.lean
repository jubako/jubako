/-
The executable model of `tools::set_location` (`setLocationAt`, Model/Pack.lean) is the abstract step `fileStep`
of Lemmas/Rewrite.lean, and the manifest's integrity check (`manifestCheck`) does not see location rewrites.
What is assumed of the manifest pack is bundled in `ManifestLayout` (on it `ManifestPack::new` reads the pack back
too, `ManifestLayout.manifestOpen_eq`); `ManifestLayout.of_concat_mid` shows it holds for the layout the creator
writes (Lemmas/VerifiesPacks.lean applies it to `manifestWrite`).  Locations longer
than `Consts.locationPad` are excluded throughout: the tool panics on them (`setLocationAt_scan`).
-/
import JubakoModel.Lemmas.Rewrite
import JubakoModel.Lemmas.Frame

namespace Jubako

/-- A manifest pack `f` (header at offset 0): `hdr`/`mhdr` are the two CRC-checked header blocks at 0 and 64;
    `hwf` … `mfree` the side conditions of `PackHeader.decode_encode` and `ManifestHeader.decode_encode`;
    `count`, `fits`, `hbase` say that the `packCount` pack infos end exactly at `checkInfoPos`, `low` that they
    start after the two header blocks.  `base` is determined by `hbase`; it is a parameter so that statements can
    name it (`fileStep base …`, `manifestMaskOf f = .ok (base, …)`) and `omega` meets an atom. -/
structure ManifestLayout (f : Bytes) (h : PackHeader) (m : ManifestHeader) (base : Nat)
    (infos : List PackInfo) : Prop where
  hdr : readBlock f 0 60 = .ok h.encode
  hwf : h.WF
  hver : h.major = Consts.versionGateMajor ∧ h.minor = Consts.versionGateMinor
  mhdr : readBlock f 64 60 = .ok m.encode
  mcount : m.packCount < 2 ^ 16
  mvs1 : m.valueStore.1 < 2 ^ 48
  mvs2 : m.valueStore.2 < 2 ^ 16
  mfree : m.freeData.length = 24
  count : m.packCount = infos.length
  fits : infos.length * 256 ≤ h.checkInfoPos
  hbase : base = h.checkInfoPos - infos.length * 256
  low : 128 ≤ base
  infosAt : ManifestAt f base infos
  wf : ∀ p ∈ infos, p.WF

/-- `mid` is what the creator writes between the manifest header and the pack infos: check infos, value store -/
theorem ManifestLayout.of_concat_mid (h : PackHeader) (m : ManifestHeader) (mid : Bytes)
    (infos : List PackInfo) (post : Bytes) (hwf : h.WF)
    (hver : h.major = Consts.versionGateMajor ∧ h.minor = Consts.versionGateMinor)
    (mvs1 : m.valueStore.1 < 2 ^ 48) (mvs2 : m.valueStore.2 < 2 ^ 16)
    (mfree : m.freeData.length = 24) (hcount : m.packCount = infos.length)
    (hn : infos.length < 2 ^ 16)
    (hcip : h.checkInfoPos = 128 + mid.length + infos.length * 256)
    (hw : ∀ p ∈ infos, p.WF) :
    ManifestLayout (block h.encode ++ block m.encode ++ mid ++
      (infos.flatMap fun p => block p.encode) ++ post) h m (128 + mid.length) infos := by
  have l1 : (block h.encode).length = 64 := by rw [block_length, PackHeader.encode_length h hwf]
  have l2 : (block m.encode).length = 64 := by
    rw [block_length, ManifestHeader.encode_length m mfree]
  have l12 : (block h.encode ++ block m.encode ++ mid).length = 128 + mid.length := by
    rw [List.length_append, List.length_append, l1, l2]
  have hat := manifestAt_concat (block h.encode ++ block m.encode ++ mid) infos post hw
  rw [l12] at hat
  refine ⟨?_, hwf, hver, ?_, by omega, mvs1, mvs2, mfree, hcount, by omega, by omega,
    by omega, hat, hw⟩
  · simp only [List.append_assoc]
    exact readBlock_block_head (PackHeader.encode_length h hwf)
  · simp only [List.append_assoc]
    exact readBlock_block_at l1 (ManifestHeader.encode_length m mfree)

/-- the special case `mid = []` -/
theorem ManifestLayout.of_concat (h : PackHeader) (m : ManifestHeader) (infos : List PackInfo)
    (post : Bytes) (hwf : h.WF)
    (hver : h.major = Consts.versionGateMajor ∧ h.minor = Consts.versionGateMinor)
    (mvs1 : m.valueStore.1 < 2 ^ 48) (mvs2 : m.valueStore.2 < 2 ^ 16)
    (mfree : m.freeData.length = 24) (hcount : m.packCount = infos.length)
    (hn : infos.length < 2 ^ 16) (hcip : h.checkInfoPos = 128 + infos.length * 256)
    (hw : ∀ p ∈ infos, p.WF) :
    ManifestLayout (block h.encode ++ block m.encode ++ (infos.flatMap fun p => block p.encode)
      ++ post) h m 128 infos := by
  have := ManifestLayout.of_concat_mid h m [] infos post hwf hver mvs1 mvs2 mfree hcount hn hcip hw
  rwa [List.append_nil] at this

namespace ManifestLayout
variable {f : Bytes} {h : PackHeader} {m : ManifestHeader} {base : Nat} {infos : List PackInfo}
  (S : ManifestLayout f h m base infos)
include S

theorem end_eq : base + infos.length * 256 = h.checkInfoPos := by
  have := S.fits; have := S.hbase; omega

theorem packInfosOffset_eq : packInfosOffset h.checkInfoPos infos.length = base := by
  rw [packInfosOffset, packInfoBlockSize_eq, S.hbase]

theorem decode_hdr : PackHeader.decode h.encode = .ok h :=
  PackHeader.decode_encode h S.hwf S.hver

theorem decode_mhdr : ManifestHeader.decode m.encode = .ok m :=
  ManifestHeader.decode_encode m S.mcount S.mvs1 S.mvs2 S.mfree

theorem step (op : Bytes × Bytes) (hl : op.2.length ≤ Consts.locationPad) :
    ManifestLayout (fileStep base infos f op) h m base (specStep infos op) ∧
    (fileStep base infos f op).length = f.length ∧
    manifestMask base infos.length (fileStep base infos f op) = manifestMask base infos.length f ∧
    (∀ a n, (a + (n + 4) ≤ base ∨ base + infos.length * 256 ≤ a) →
      readBlock (fileStep base infos f op) a n = readBlock f a n) := by
  obtain ⟨h1, h2, h4, h5, hrb⟩ := manifestAt_step S.infosAt S.wf op hl
  have hlow := S.low
  have h3 := specStep_length infos op
  exact ⟨⟨(hrb 0 60 (by omega)).trans S.hdr, S.hwf, S.hver, (hrb 64 60 (by omega)).trans S.mhdr, S.mcount,
    S.mvs1, S.mvs2, S.mfree, S.count.trans h3.symm, h3 ▸ S.fits, h3 ▸ S.hbase, S.low, h1, h4⟩, h2, h5, hrb⟩

theorem manifestMaskOf_eq : manifestMaskOf f = .ok (base, infos.length) := by
  unfold manifestMaskOf
  simp only [S.hdr, S.mhdr, S.decode_hdr, S.decode_mhdr, bind, Outcome.bind, S.count, S.packInfosOffset_eq]

theorem manifestOpen_eq (hk : h.kind = .manifest)
    (hvs : m.valueStore = (0, 0) ∨ ∃ r, valueStoreOpen f m.valueStore = .ok r)
    (hdir : infos.any (fun i => i.kind = .directory) = true) :
    manifestOpen f = .ok (h, m, infos) := by
  have hoh : openHeader f .manifest = .ok h := hk ▸ openHeader_of_block h S.hdr S.hwf S.hver
  have hfits : ¬ h.checkInfoPos < infos.length * packInfoBlockSize := by
    rw [packInfoBlockSize_eq]; have := S.fits; omega
  unfold manifestOpen
  simp only [hoh, S.mhdr, S.decode_mhdr, Outcome.ok_bind, S.count, if_neg hfits, S.packInfosOffset_eq]
  -- the loop collects the pack infos; what follows it is the value store, if any, and the directory test
  rw [foldlM_range_collect _ infos]
  · rcases hvs with h0 | ⟨r, hr⟩
    · simp only [h0, hdir, ne_eq, not_true, if_false, if_true, Outcome.ok_bind]
    · simp only [hr, hdir, Outcome.ok_bind, if_true, ite_self]
  · intro acc k hk
    rw [packInfoBlockSize_eq, readBlock_info f base infos S.infosAt S.wf k hk, Outcome.ok_bind,
      PackInfo.decode_encode _ (S.wf _ (List.getElem_mem hk)), Outcome.ok_bind]
    rfl

end ManifestLayout

theorem packCheckParts_fileStep {f : Bytes} {h : PackHeader} {m : ManifestHeader} {base : Nat}
    {infos : List PackInfo} (S : ManifestLayout f h m base infos) (uuid loc : Bytes)
    (hl : loc.length ≤ Consts.locationPad) :
    packCheckParts (fileStep base infos f (uuid, loc)) = packCheckParts f := by
  obtain ⟨S', -, -, hrb⟩ := S.step (uuid, loc) hl
  simp only [packCheckParts_eq, S'.hdr, S.hdr, Outcome.bind, S.decode_hdr]
  cases h.checkInfoSize with
  | none => rfl
  | some n => simp only [hrb h.checkInfoPos n (Or.inr (Nat.le_of_eq S.end_eq))]

/-- the mask parameters read from the two headers are the same after the rewrite -/
theorem manifestMaskOf_fileStep (f : Bytes) (h : PackHeader) (m : ManifestHeader) (base : Nat)
    (infos : List PackInfo) (S : ManifestLayout f h m base infos) (uuid loc : Bytes)
    (hl : loc.length ≤ Consts.locationPad) :
    manifestMaskOf (fileStep base infos f (uuid, loc)) = manifestMaskOf f := by
  obtain ⟨S', -, -, -⟩ := S.step (uuid, loc) hl
  rw [S'.manifestMaskOf_eq, S.manifestMaskOf_eq, specStep_length]

theorem manifestCheck_fileStep (H : Bytes → Bytes) (f : Bytes) (h : PackHeader)
    (m : ManifestHeader) (base : Nat) (infos : List PackInfo)
    (S : ManifestLayout f h m base infos) (uuid loc : Bytes)
    (hl : loc.length ≤ Consts.locationPad) :
    manifestCheck H (fileStep base infos f (uuid, loc)) = manifestCheck H f := by
  obtain ⟨S', hlen, hmask, -⟩ := S.step (uuid, loc) hl
  simp only [manifestCheck, bind, S'.manifestMaskOf_eq, S.manifestMaskOf_eq, specStep_length, Outcome.bind]
  exact packCheck_congr (packCheckParts_fileStep S uuid loc hl)
    (fun cip => by rw [manifestMask_take, manifestMask_take, hmask]) hlen

theorem manifestCheck_histories (H : Bytes → Bytes) (f : Bytes) (h : PackHeader)
    (m : ManifestHeader) (base : Nat) (infos : List PackInfo)
    (S : ManifestLayout f h m base infos) (ops : List (Bytes × Bytes))
    (hl : ∀ op ∈ ops, op.2.length ≤ Consts.locationPad) :
    manifestCheck H (ops.foldl (fun (st : Bytes × List PackInfo) op =>
      (fileStep base st.2 st.1 op, specStep st.2 op)) (f, infos)).1 = manifestCheck H f := by
  induction ops generalizing f infos with
  | nil => rfl
  | cons op rest ih =>
    have hlo : op.2.length ≤ Consts.locationPad := hl op List.mem_cons_self
    have hl' : ∀ o ∈ rest, o.2.length ≤ Consts.locationPad :=
      fun o ho => hl o (List.mem_cons_of_mem _ ho)
    rw [List.foldl_cons]
    obtain ⟨S', -, -, -⟩ := S.step op hlo
    rw [ih _ _ S' hl']
    exact manifestCheck_fileStep H f h m base infos S op.1 op.2 hlo

/-- `f` is the manifest pack the blocks are read from (`file.drop origin` for the caller); the splice goes into
    the whole `file` -/
theorem setLocationAt_go_spec (file : Bytes) (origin : Nat) (uuid loc f : Bytes) (base : Nat)
    (infos : List PackInfo) (hm : ManifestAt f base infos) (hw : ∀ p ∈ infos, p.WF) :
    ∀ (fuel k : Nat), k + fuel = infos.length →
      setLocationAt.go file origin uuid loc f base k fuel =
        match (infos.drop k).findIdx? (fun p => p.uuid == uuid) with
        | some i =>
          if loc.length > Consts.locationPad then .panic "pstring.rs: assert len <= max_len"
          else .ok (splice file (origin + (base + (k + i) * 256))
                (block (setLoc (infos.getD (k + i) specStep.default) loc).encode),
              some (infos.getD (k + i) specStep.default).location)
        | none => .ok (file, none) := by
  intro fuel
  induction fuel with
  | zero =>
    intro k hk
    have : infos.drop k = [] := List.drop_of_length_le (by omega)
    rw [this]; rfl
  | succ fuel ih =>
    intro k hk
    have hkl : k < infos.length := by omega
    have hd : infos.drop k = infos[k] :: infos.drop (k + 1) := List.drop_eq_getElem_cons hkl
    have hwk := hw _ (List.getElem_mem hkl)
    rw [setLocationAt.go, packInfoBlockSize_eq, readBlock_info f base infos hm hw k hkl]
    simp only [PackInfo.decode_encode _ hwk]
    rw [hd, List.findIdx?_cons]
    by_cases hu : (infos[k]).uuid = uuid
    · rw [if_pos hu, if_pos (beq_iff_eq.2 hu)]
      simp only [getD_of_lt infos (k + 0) _ hkl]
      rfl
    · have hb : ¬ ((infos[k]).uuid == uuid) = true := by simp [hu]
      rw [if_neg hu, if_neg hb, ih (k + 1) (by omega)]
      cases List.findIdx? (fun p => p.uuid == uuid) (List.drop (k + 1) infos) with
      | none => rfl
      | some i =>
        simp only [Option.map_some]
        rw [show k + (i + 1) = k + 1 + i by omega]

theorem setLocationAt_scan {file : Bytes} {origin : Nat} {h : PackHeader} {m : ManifestHeader} {base : Nat}
    {infos : List PackInfo} (S : ManifestLayout (file.drop origin) h m base infos) (uuid loc : Bytes) :
    setLocationAt file origin uuid loc =
      match infos.findIdx? (fun p => p.uuid == uuid) with
      | some i =>
        if loc.length > Consts.locationPad then .panic "pstring.rs: assert len <= max_len"
        else .ok (file.take origin ++ splice (file.drop origin) (base + i * 256)
              (block (setLoc (infos.getD i specStep.default) loc).encode),
            some (infos.getD i specStep.default).location)
      | none => .ok (file, none) := by
  unfold setLocationAt
  simp only [S.hdr, S.mhdr, S.decode_hdr, S.decode_mhdr, bind, Outcome.bind, S.count, S.packInfosOffset_eq]
  rw [setLocationAt_go_spec file origin uuid loc _ base infos S.infosAt S.wf infos.length 0 (by omega),
    List.drop_zero]
  simp only [Nat.zero_add, splice_add]

theorem setLocationAt_notfound (file : Bytes) (origin : Nat) (uuid loc : Bytes) (h : PackHeader)
    (m : ManifestHeader) (base : Nat) (infos : List PackInfo)
    (S : ManifestLayout (file.drop origin) h m base infos)
    (hn : infos.findIdx? (fun p => p.uuid == uuid) = none) :
    setLocationAt file origin uuid loc = .ok (file, none) := by
  rw [setLocationAt_scan S, hn]

def oldLocation (infos : List PackInfo) (uuid : Bytes) : Option Bytes :=
  (infos.findIdx? (fun p => p.uuid == uuid)).map fun k => (infos.getD k specStep.default).location

theorem setLocationAt_eq (file : Bytes) (origin : Nat) (uuid loc : Bytes) (h : PackHeader)
    (m : ManifestHeader) (base : Nat) (infos : List PackInfo)
    (S : ManifestLayout (file.drop origin) h m base infos)
    (hl : loc.length ≤ Consts.locationPad) :
    setLocationAt file origin uuid loc =
      .ok (file.take origin ++ fileStep base infos (file.drop origin) (uuid, loc),
           oldLocation infos uuid) := by
  rw [setLocationAt_scan S, fileStep, oldLocation]
  cases infos.findIdx? (fun p => p.uuid == uuid) with
  | none => simp only [Option.map_none, List.take_append_drop]
  | some k => simp only [if_neg (Nat.not_lt.2 hl), Option.map_some]

theorem setLocationAt_eq_fileStep (file : Bytes) (uuid loc : Bytes) (h : PackHeader)
    (m : ManifestHeader) (base : Nat) (infos : List PackInfo)
    (S : ManifestLayout file h m base infos) (hl : loc.length ≤ Consts.locationPad) :
    setLocationAt file 0 uuid loc =
      .ok (fileStep base infos file (uuid, loc), oldLocation infos uuid) := by
  have S0 : ManifestLayout (file.drop 0) h m base infos := by rw [List.drop_zero]; exact S
  rw [setLocationAt_eq file 0 uuid loc h m base infos S0 hl]
  simp only [List.take_zero, List.drop_zero, List.nil_append]

/-- manifest at `origin` inside a container: bytes before `origin` untouched, the pack part is the
    abstract step -/
theorem setLocationAt_drop (file : Bytes) (origin : Nat) (uuid loc : Bytes) (h : PackHeader)
    (m : ManifestHeader) (base : Nat) (infos : List PackInfo)
    (S : ManifestLayout (file.drop origin) h m base infos)
    (hl : loc.length ≤ Consts.locationPad) :
    ∃ file', (setLocationAt file origin uuid loc).map' (·.1) = .ok file' ∧
      file'.take origin = file.take origin ∧
      file'.drop origin = fileStep base infos (file.drop origin) (uuid, loc) := by
  have hlen := S.infosAt.1
  have hlow := S.low
  rw [List.length_drop] at hlen
  have ho : (file.take origin).length = origin := by rw [List.length_take]; omega
  refine ⟨_, by rw [setLocationAt_eq file origin uuid loc h m base infos S hl]; rfl, ?_, ?_⟩
  · exact List.take_left' ho
  · exact List.drop_left' ho

end Jubako
