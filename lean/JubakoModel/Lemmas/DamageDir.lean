/-
Damage monotonicity of the directory-pack and manifest readers (continuation of Lemmas/Damage.lean),
what it asks of a written directory pack, and what an answer of the index scan says about index
tails that did not read.
-/
import JubakoModel.Lemmas.Damage
import JubakoModel.Lemmas.DirFile

namespace Jubako

section decode
-- `sg`, `sf`: the value stores as opened, on demand, out of the damaged file and out of the original
variable {sg sf : Nat → Outcome (ValueStoreTail × Bytes)} (hS : ∀ k, SameOrErr (sg k) (sf k))
include hS

theorem decodeProp_follows (e : Bytes) (p : PropAt) :
    SameOrErr (decodeProp sg e p) (decodeProp sf e p) := by
  -- the stores are consulted for deported integers and for the rest of an array
  have harr : ∀ size base fixedLen ext,
      SameOrErr (resolveArray sg size base fixedLen ext >>= fun b => Outcome.ok (Val.arr b))
        (resolveArray sf size base fixedLen ext >>= fun b => Outcome.ok (Val.arr b)) := by
    intro size base fixedLen ext
    refine SameOrErr.bind ?_ (fun _ _ => SameOrErr.refl)
    unfold resolveArray
    cases ext with
    | none => exact SameOrErr.refl
    | some q => exact SameOrErr.bind (hS q.1) (fun vs _ => SameOrErr.refl)
  unfold decodeProp
  cases p.kind with
  | deportedInt signed sz store id => exact SameOrErr.bind (hS store) (fun vs _ => SameOrErr.refl)
  | array lenSize fixedLen dep dflt =>
    cases dflt with
    | some d =>
      obtain ⟨sz, fixed, kid⟩ := d
      cases dep with
      | none => exact harr _ _ _ _
      | some dp =>
        cases kid with
        | none => exact SameOrErr.refl
        | some k => exact harr _ _ _ _
    | none =>
      refine SameOrErr.bind_same (fun size _ => ?_)
      refine Follows.ite _ (fun _ => ?_) (fun _ => SameOrErr.refl)
      cases dep with
      | none => exact harr _ _ _ _
      | some dp => exact SameOrErr.bind_same (fun id _ => harr _ _ _ _)
  | _ => exact SameOrErr.refl

theorem decodeEntry_follows (l : Layout) (e : Bytes) :
    SameOrErr (decodeEntry sg l e) (decodeEntry sf l e) := by
  unfold decodeEntry
  have hfold : ∀ (ps : List PropAt) (init : List (Bytes × Val)),
      SameOrErr (ps.foldlM (fun acc p => do let v ← decodeProp sg e p; pure (acc ++ [(p.name, v)])) init)
        (ps.foldlM (fun acc p => do let v ← decodeProp sf e p; pure (acc ++ [(p.name, v)])) init) :=
    fun ps init => SameOrErr.foldlM fun b a =>
      SameOrErr.bind (decodeProp_follows hS e a) (fun _ _ => SameOrErr.refl)
  refine SameOrErr.bind (hfold _ _) (fun common _ => ?_)
  cases l.variantIdOffset with
  | none => exact SameOrErr.refl
  | some off =>
    simp only
    refine SameOrErr.bind_same (fun vid _ => ?_)
    cases l.variants[vid]? with
    | none => exact SameOrErr.refl
    | some v =>
      obtain ⟨nm, props⟩ := v
      simp only
      exact SameOrErr.bind (hfold _ _) (fun _ _ => SameOrErr.refl)

end decode

section readers
variable {f g : Bytes} (hD : BlocksAgree f g)
include hD

theorem directoryOpen_follows : SameOrErr (directoryOpen g) (directoryOpen f) := by
  unfold directoryOpen
  refine SameOrErr.bind (openHeader_follows hD _) (fun h _ => ?_)
  refine SameOrErr.bind hD.read (fun db _ => ?_)
  refine SameOrErr.bind_same (fun dh _ => ?_)
  refine SameOrErr.bind hD.read (fun _ _ => ?_)
  refine SameOrErr.bind hD.read (fun _ _ => ?_)
  refine SameOrErr.bind hD.read (fun _ _ => ?_)
  exact SameOrErr.refl

theorem valueStoreOpen_follows (so : Nat × Nat) : SameOrErr (valueStoreOpen g so) (valueStoreOpen f so) := by
  unfold valueStoreOpen
  refine SameOrErr.bind hD.read (fun tb _ => ?_)
  refine SameOrErr.bind_same (fun t _ => ?_)
  refine Follows.ite _ (fun _ => SameOrErr.refl) fun _ => ?_
  exact SameOrErr.bind hD.read (fun _ _ => SameOrErr.refl)

/-- Layout flag `checked` (`is_entry_checked`, `reader/directory_pack/layout/mod.rs`) off: the entries
    are one CRC-checked block in front of the tail, the only form the creator writes.  On: every
    entry carries its own CRC and the data is cut out of the file unverified (`EntryStore::finalize`,
    `reader/directory_pack/entry_store.rs`). -/
theorem entryStoreOpen_follows (so : Nat × Nat) :
    Follows (fun r' r => r'.1 = r.1 ∧ (r.1.checked = false → r'.2 = r.2))
      (entryStoreOpen g so) (entryStoreOpen f so) := by
  unfold entryStoreOpen
  refine SameOrErr.bind hD.read (fun tb _ => ?_)
  cases tb with
  | nil => exact Follows.err
  | cons k rest =>
    refine Follows.ite _ (fun _ => Follows.panic) fun _ => ?_
    refine Follows.ite _ (fun _ => Follows.err) fun _ => ?_
    refine SameOrErr.bind_same (fun l _ => ?_)
    refine Follows.ite _ (fun hc => ?_) (fun hc => ?_)
    · -- flag on: only the layout is known to be the same
      refine Follows.ite _ (fun _ => Follows.panic) fun _ => ?_
      exact Follows.ite_ok fun _ _ => ⟨rfl, fun h => by rw [hc] at h; cases h⟩
    · refine Follows.ite _ (fun _ => Follows.panic) fun _ => ?_
      refine SameOrErr.bind hD.read (fun d _ => ?_)
      exact Follows.ok ⟨rfl, fun _ => rfl⟩

/-- flag `checked` off, see `entryStoreOpen_follows` -/
def EntryStoreInBlock (f : Bytes) (si : Nat) : Prop :=
  ∀ p dh et l d, directoryOpen f = .ok (p, dh) →
    readBlock f dh.entryStorePtrPos (8 * dh.entryStoreCount) = .ok et →
    entryStoreOpen f (sizedOffsetDecode (slice et (8 * si) 8)) = .ok (l, d) → l.checked = false

/-- behind `c05_file_directory_entry` -/
theorem dirGetEntry_follows (si gi : Nat) (hu : EntryStoreInBlock f si) :
    SameOrErr (dirGetEntry g si gi) (dirGetEntry f si gi) := by
  unfold dirGetEntry
  refine SameOrErr.bind (directoryOpen_follows hD) (fun pd hopen => ?_)
  refine SameOrErr.bind hD.read (fun vt _ => ?_)
  refine SameOrErr.bind hD.read (fun et het => ?_)
  refine Follows.ite _ (fun _ => ?_) (fun _ => SameOrErr.refl)
  refine Follows.bind (entryStoreOpen_follows hD _) (fun r r' hr hrel => ?_)
  -- the entries are in a block (`hu`), so the entry data is the same as well
  have : r' = r := Prod.ext hrel.1 (hrel.2 (hu pd.1 pd.2 et r.1 r.2 hopen het hr))
  subst this
  refine Follows.ite _ (fun _ => ?_) (fun _ => SameOrErr.refl)
  refine decodeEntry_follows (fun k => ?_) _ _
  exact Follows.ite _ (fun _ => valueStoreOpen_follows hD _) (fun _ => SameOrErr.refl)

theorem manifestOpen_follows : SameOrErr (manifestOpen g) (manifestOpen f) := by
  unfold manifestOpen
  refine SameOrErr.bind (openHeader_follows hD _) (fun h _ => ?_)
  refine SameOrErr.bind hD.read (fun mb _ => ?_)
  refine SameOrErr.bind_same (fun m _ => ?_)
  refine Follows.ite _ (fun _ => SameOrErr.refl) fun _ => ?_
  refine SameOrErr.bind (SameOrErr.foldlM fun acc k =>
    SameOrErr.bind hD.read fun _ _ => SameOrErr.refl) (fun infos _ => ?_)
  refine Follows.ite _ (fun _ => ?_) (fun _ => SameOrErr.refl)
  exact SameOrErr.bind (valueStoreOpen_follows hD _) (fun _ _ => SameOrErr.refl)

end readers

theorem entryStoreInBlock_dirPackWrite (H : Bytes → Bytes) (vendor uuid freeData : Bytes) (d : DirIn)
    (hwf : d.WF) (hl : d.Limits H vendor uuid freeData) :
    EntryStoreInBlock (dirPackWrite H vendor uuid freeData d) 0 := by
  have B := dirPackWrite_blocks H vendor uuid freeData d hl.vendorLen hl.uuidLen hl.freeDataLen
  intro p dh et l dd h1 h2 h3
  rw [B.opens hl.vendorLen hl.uuidLen hl.freeDataLen (d.stores_length ▸ hwf.1) hl.indexCount
    hl.fileSize] at h1
  cases h1
  rw [show (d.dh freeData).entryStoreCount = 1 from rfl, B.entryTable] at h2
  cases h2
  rw [B.entrySO hl.entryTail hl.fileSize, entryStoreOpen_dirPackWrite H vendor uuid freeData d hwf hl] at h3
  cases h3
  rfl

/-- `DirectoryPack::get_index_from_name`: a tail that does not read never hides behind an answer
    (behind `c05_index_lookup_none`, `c05_index_lookup_some`) -/
theorem lookupIndexByName_ok {ios : List (Outcome IndexInfo)} {name : Bytes} {r : Option IndexInfo}
    (h : lookupIndexByName ios name = .ok r) :
    ∃ (pre : List IndexInfo) (rest : List (Outcome IndexInfo)),
      ios = pre.map .ok ++ rest ∧ (∀ i ∈ pre, i.name ≠ name) ∧
      (r = none ∧ rest = [] ∨ ∃ i rest', r = some i ∧ i.name = name ∧ rest = .ok i :: rest') := by
  induction ios with
  | nil => cases h; exact ⟨[], [], rfl, fun _ hi => absurd hi List.not_mem_nil, Or.inl ⟨rfl, rfl⟩⟩
  | cons x ios ih =>
    cases x with
    | ok j =>
      rw [lookupIndexByName] at h
      split at h
      · next hn =>
        cases h
        exact ⟨[], _, rfl, fun _ hi => absurd hi List.not_mem_nil, Or.inr ⟨j, ios, rfl, beq_iff_eq.1 hn, rfl⟩⟩
      · next hn =>
        obtain ⟨pre, rest, rfl, hpre, hr⟩ := ih h
        refine ⟨j :: pre, rest, rfl, fun i hi => ?_, hr⟩
        rcases List.mem_cons.1 hi with rfl | hi
        · exact fun e => hn (beq_iff_eq.2 e)
        · exact hpre i hi
    | _ => cases h

end Jubako
