/-
Directory pack, file-level round trip: value stores.  The tail codec, the id the creator stored
gives the value back, and `valueStoreOpen` finds a store whose two blocks sit in a file.
-/
import JubakoModel.Lemmas.Order
import JubakoModel.Lemmas.DirCodec

namespace Jubako

theorem VStore.dataSize_eq (s : VStore) : s.dataSize = lenSum s.values := rfl

theorem VStore.data_length (s : VStore) : s.data.length = s.dataSize := by
  rw [VStore.data, lenSum_flatten, VStore.dataSize_eq]

theorem rankOf_lt (x : Bytes) (l : List Bytes) (acc : Nat) (h : x ∈ l) :
    rankOf x l acc < acc + l.length := by
  rw [rankOf_eq]; exact Nat.add_lt_add_left (List.idxOf_lt_length_of_mem h) acc

def VStore.tail (s : VStore) : ValueStoreTail :=
  if s.indexed then ⟨true, s.dataSize, 0 :: endOffsets s.values 0⟩ else ⟨false, s.dataSize, []⟩

theorem VStore.slot (s : VStore) (x : Bytes) (hx : x ∈ s.values) :
    s.values.idxOf x < s.values.length ∧
    lenSum (s.values.take (s.values.idxOf x + 1)) =
      lenSum (s.values.take (s.values.idxOf x)) + x.length ∧
    lenSum (s.values.take (s.values.idxOf x)) + x.length ≤ s.data.length ∧
    slice s.data (lenSum (s.values.take (s.values.idxOf x))) x.length = x := by
  have hk := List.idxOf_lt_length_of_mem hx
  obtain ⟨h1, h2, h3⟩ := flatten_segment s.values _ hk
  rw [List.getElem_idxOf hk] at h1 h2 h3
  exact ⟨hk, h1, by rw [VStore.data_length, VStore.dataSize_eq]; exact h2, h3⟩

/-- `Array` with an explicit length; the id is a byte offset in a plain store, a rank in an indexed
    one -/
theorem valueStoreGet_sized (s : VStore) (x : Bytes) (hx : x ∈ s.values) :
    valueStoreGet (s.tail, s.data) (s.idOf x) (some x.length) = .ok x := by
  obtain ⟨hk, -, hle, hsl⟩ := s.slot x hx
  rw [VStore.idOf_eq]
  unfold valueStoreGet VStore.tail
  cases hi : s.indexed with
  | false =>
    simp only [Bool.false_eq_true, if_false]
    rw [if_pos hle, hsl]
  | true =>
    simp only [if_true, List.length_cons, endOffsets_length]
    rw [if_neg (by omega), bounds_getD s.values _ (by omega), if_pos hle, hsl]

/-- `IndirectArray`: the length comes from the next offset of an indexed store -/
theorem valueStoreGet_unsized (s : VStore) (hix : s.indexed = true) (x : Bytes) (hx : x ∈ s.values) :
    valueStoreGet (s.tail, s.data) (s.idOf x) none = .ok x := by
  obtain ⟨hk, hsucc, hle, hsl⟩ := s.slot x hx
  rw [VStore.idOf_eq]
  unfold valueStoreGet VStore.tail
  simp only [hix, if_true, List.length_cons, endOffsets_length]
  rw [if_neg (by omega), bounds_getD s.values _ (by omega), bounds_getD s.values _ (by omega),
    hsucc, if_pos (by omega)]
  simp only [Nat.add_sub_cancel_left]
  rw [if_pos hle, hsl]

theorem VStore.idOf_lt (s : VStore) (x : Bytes) (hx : x ∈ s.values) :
    s.idOf x < 256 ^ s.keySize := by
  have hr := List.idxOf_lt_length_of_mem hx
  rw [VStore.idOf_eq]
  unfold VStore.keySize
  cases hi : s.indexed with
  | true =>
    simp only [if_true]
    have := (neededBytes_spec s.values.length).1
    omega
  | false =>
    simp only [Bool.false_eq_true, if_false]
    have := lenSum_take_le s.values (s.values.idxOf x)
    have := (neededBytes_spec s.dataSize).1
    rw [VStore.dataSize_eq] at *
    omega

theorem VStore.tailBytes_length (s : VStore) :
    s.tailBytes.length =
      if s.indexed then 10 + neededBytes s.dataSize * s.values.length +
        (if s.values.length = 0 then neededBytes s.dataSize else 0) else 9 := by
  unfold VStore.tailBytes
  cases hi : s.indexed with
  | false => simp [leBytes_length]
  | true =>
    have := flatten_fixed_length (endOffsets s.values 0).dropLast
      (fun o => leBytes o (neededBytes s.dataSize)) (neededBytes s.dataSize)
      (fun x => leBytes_length _ _)
    simp only [if_true, List.length_append, List.length_cons, List.length_nil, leBytes_length, this,
      List.length_dropLast, endOffsets_length]
    split
    · rename_i h0; rw [h0]; simp
    · rename_i h0
      have : neededBytes s.dataSize * (s.values.length - 1) + neededBytes s.dataSize =
          neededBytes s.dataSize * s.values.length := by
        rw [← Nat.mul_succ]; congr 1; omega
      omega

theorem VStore.values_length_le_tail (s : VStore) (hi : s.indexed = true) :
    s.values.length ≤ s.tailBytes.length := by
  rw [VStore.tailBytes_length, hi]
  simp only [if_true]
  have := (neededBytes_spec s.dataSize).2
  have : s.values.length ≤ neededBytes s.dataSize * s.values.length :=
    Nat.le_mul_of_pos_left _ (by omega)
  omega

/-- `hn`, `hd`: the number of values and the data size are `u64` fields.  The start `10 + w + 0 * w` of the
    offset table is the shape `offsets_go_spec` has at entry 0.  The final `by_cases`: for a store without
    values the writer emits no table. -/
theorem valueStoreTailDecode_tailBytes (s : VStore)
    (hn : s.indexed = true → s.values.length < 2 ^ 64)
    (hd : s.dataSize < 2 ^ 64) : valueStoreTailDecode s.tailBytes = .ok s.tail := by
  unfold VStore.tailBytes VStore.tail
  cases hi : s.indexed with
  | false =>
    simp only [Bool.false_eq_true, if_false, List.singleton_append]
    have hr := readUN_of_drop (bs := 0 :: leBytes s.dataSize 8) (off := 1) (g := [])
      (List.append_nil _).symm (by decide) hd
    simp only [valueStoreTailDecode, if_true, hr, Outcome.ok_bind]
  | true =>
    have hn := hn hi
    have hw1 := (neededBytes_spec s.dataSize).2
    have hwf := (neededBytes_spec s.dataSize).1
    have hw8 := neededBytes_le_8 s.dataSize hd
    simp only [if_true]
    generalize neededBytes s.dataSize = w at hw1 hwf hw8
    -- after the kind byte: the count (8 bytes), the offset width `w` (1 byte), the data size (`w` bytes), the offset
    -- table; `R` stands for all of it, so that unfolding the decoder leaves reads on `1 :: R`
    rw [← leBytes_one w]
    simp only [List.append_assoc, List.cons_append, List.nil_append]
    generalize hR : leBytes s.values.length 8 ++ (leBytes w 1 ++ (leBytes s.dataSize w ++
      ((endOffsets s.values 0).dropLast.map (fun o => leBytes o w)).flatten)) = R
    have c1 : (1 :: R).drop 1 = _ := hR.symm
    have c2 : (1 :: R).drop 9 = _ := drop_skip_len c1 (leBytes_length _ 8)
    have c3 : (1 :: R).drop 10 = _ := drop_skip_len c2 (leBytes_length _ 1)
    have hgo := offsets_go_spec (1 :: R) w s.dataSize (10 + w) _ hw1
      (valueStoreTailDecode.go (1 :: R) w s.dataSize) (fun _ _ => rfl) (fun _ _ _ => rfl)
      (endOffsets s.values 0).dropLast 0 []
      (by rw [Nat.zero_mul]; exact drop_skip_len (p := 10) c3 (leBytes_length _ w)) (by
      intro o ho
      have hm : o ∈ endOffsets s.values 0 := List.dropLast_subset _ ho
      have : o ≤ 0 + lenSum s.values := endOffsets_le_total s.values 0 o hm
      have := s.dataSize_eq
      constructor <;> omega)
    rw [List.length_dropLast, endOffsets_length] at hgo
    have h1 : (1 : UInt8) ≠ 0 := by decide
    simp only [valueStoreTailDecode, h1, if_false, if_true,
      readUN_of_drop c1 (by decide) hn, readUN_of_drop c2 (by decide) (show w < 256 ^ 1 by omega),
      Outcome.ok_bind]
    rw [if_neg (by omega), readUN_of_drop c3 hw1 hwf]
    simp only [Outcome.ok_bind, hgo, List.reverse_nil, List.nil_append]
    congr 2
    by_cases h0 : s.values.length = 0
    · have : s.values = [] := List.eq_nil_of_length_eq_zero h0
      simp [this, endOffsets, VStore.dataSize]
    · have hne : s.values ≠ [] := by intro h; rw [h] at h0; exact h0 rfl
      rw [if_neg h0, List.cons_append, VStore.dataSize_eq, endOffsets_dropLast_append s.values hne]

theorem VStore.encode_eq (s : VStore) :
    s.encode = (block s.data ++ block s.tailBytes, s.dataSize + 4, s.tailBytes.length) := by
  simp only [VStore.encode, block_length, VStore.data_length]

theorem VStore.encode_fst_length (s : VStore) :
    s.encode.1.length = s.encode.2.1 + (s.encode.2.2 + 4) := by
  rw [VStore.encode_eq]; simp only [List.length_append, block_length, VStore.data_length]

theorem valueStoreOpen_of_blocks {f : Bytes} (s : VStore) (p : Nat)
    (hd : readBlock f p s.dataSize = .ok s.data)
    (ht : readBlock f (p + s.dataSize + 4) s.tailBytes.length = .ok s.tailBytes)
    (hn : s.indexed = true → s.values.length < 2 ^ 64) (hds : s.dataSize < 2 ^ 64) :
    valueStoreOpen f (p + s.dataSize + 4, s.tailBytes.length) = .ok (s.tail, s.data) := by
  have htd : s.tail.dataSize = s.dataSize := by unfold VStore.tail; split <;> rfl
  unfold valueStoreOpen
  simp only [ht, Outcome.ok_bind, valueStoreTailDecode_tailBytes s hn hds, htd]
  rw [if_neg (by omega), show p + s.dataSize + 4 - s.dataSize - 4 = p by omega, hd]
  rfl

theorem VStore.encode_blocks (s : VStore) {f g : Bytes} {p : Nat} (h : f.drop p = s.encode.1 ++ g) :
    readBlock f p s.dataSize = .ok s.data ∧
    readBlock f (p + s.dataSize + 4) s.tailBytes.length = .ok s.tailBytes := by
  rw [VStore.encode_eq, List.append_assoc] at h
  exact ⟨readBlock_of_drop h s.data_length,
    readBlock_of_drop (s.data_length ▸ drop_skip_block h) rfl⟩

theorem valueStoreOpen_encode (s : VStore) (pre post : Bytes)
    (hn : s.indexed = true → s.values.length < 2 ^ 64) (hd : s.dataSize < 2 ^ 64) :
    valueStoreOpen (pre ++ (s.encode.1 ++ post)) (pre.length + s.encode.2.1, s.encode.2.2) =
      .ok (s.tail, s.data) := by
  obtain ⟨h1, h2⟩ := s.encode_blocks (List.drop_left (l₁ := pre))
  have := valueStoreOpen_of_blocks s pre.length h1 h2 hn hd
  rwa [VStore.encode_eq, ← Nat.add_assoc]

/-! The stores and layout of a writer input are here because DirFileSchema and DirFileWrite both
need them and this is the module both import. -/

/-- the store the creator model uses for an out-of-range store index -/
abbrev vsDflt : VStore := ⟨false, []⟩

def DirIn.stores (d : DirIn) : List VStore :=
  d.storeKinds.zipIdx.map (fun x => VStore.finalize x.1 (addedTo d.schema d.entries x.2))

def DirIn.layout (d : DirIn) : LayoutOut := finalizeSchema d.stores d.schema d.entries

theorem DirIn.stores_length (d : DirIn) : d.stores.length = d.storeKinds.length := by
  simp [DirIn.stores]

theorem DirIn.stores_getD (d : DirIn) (st : Nat) (hst : st < d.storeKinds.length) :
    d.stores.getD st vsDflt =
      VStore.finalize (d.storeKinds.getD st false) (addedTo d.schema d.entries st) := by
  simp only [DirIn.stores, List.getD_eq_getElem?_getD, List.getElem?_map, List.getElem?_zipIdx,
    List.getElem?_eq_getElem hst, Option.map_some, Option.getD_some, Nat.zero_add]

theorem DirIn.mem_store (d : DirIn) (st : Nat) (hst : st < d.storeKinds.length) (x : Bytes) :
    x ∈ (d.stores.getD st vsDflt).values ↔ x ∈ addedTo d.schema d.entries st := by
  rw [d.stores_getD st hst, VStore.mem_finalize]

end Jubako
