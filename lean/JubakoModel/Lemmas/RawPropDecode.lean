/-
Lemmas of the reading primitives of Model/DirLayout.lean: a sequential read on `bs.drop o` is a positional read of
`bs` at `o` (for the ties of translated parsers); a read of what an encoder wrote in front of `b` returns it and `b`
(for the round trips); the equations of `RawProp.decode`, one per type nibble of the info byte, which both read with.
-/
import JubakoModel.Model.DirLayout
import JubakoModel.Lemmas.Codec

namespace Jubako

/-! The hypothesis `1 ≤ n ∨ o ≤ bs.length` below: reading `n = 0` bytes from `bs.drop o` with `o` past the end
succeeds (`ok ([], [])`), while the positional form is an error. -/

theorem takeBytes_drop (bs : Bytes) (o n : Nat) (h : 1 ≤ n ∨ o ≤ bs.length) :
    takeBytes (bs.drop o) n = if o + n ≤ bs.length then .ok (slice bs o n, bs.drop (o + n)) else .err .format := by
  have hb : n ≤ bs.length - o ↔ o + n ≤ bs.length := by omega
  simp only [takeBytes, slice, List.length_drop, List.drop_drop, hb]

theorem takeLE_eq_takeBytes (bs : Bytes) (n : Nat) :
    takeLE bs n = (takeBytes bs n).map' fun x => (leNat x.1, x.2) := by
  unfold takeLE takeBytes; split <;> rfl

theorem takeLE_drop (bs : Bytes) (o n : Nat) (h : 1 ≤ n ∨ o ≤ bs.length) :
    takeLE (bs.drop o) n =
      if o + n ≤ bs.length then .ok (leNat (slice bs o n), bs.drop (o + n)) else .err .format := by
  rw [takeLE_eq_takeBytes, takeBytes_drop bs o n h]; split <;> rfl

theorem takeLE_at (bs : Bytes) (o n : Nat) (h : o + n ≤ bs.length) :
    takeLE (bs.drop o) n = .ok (leNat (slice bs o n), bs.drop (o + n)) := by
  rw [takeLE_drop bs o n (.inr (by omega)), if_pos h]

theorem takeBytes_at (bs : Bytes) (o n : Nat) (h : o + n ≤ bs.length) :
    takeBytes (bs.drop o) n = .ok (slice bs o n, bs.drop (o + n)) := by
  rw [takeBytes_drop bs o n (.inr (by omega)), if_pos h]

theorem takeLE_pos (bs : Bytes) (o n : Nat) (hn : 1 ≤ n) :
    takeLE (bs.drop o) n = (readUN bs o n).bind fun v => .ok (v, bs.drop (o + n)) := by
  rw [takeLE_drop bs o n (.inl hn), readUN]
  split <;> rfl

theorem entryLE_eq_readUN : entryLE = readUN := rfl

theorem entryLE_eq_ok {e : Bytes} {o n v : Nat} :
    entryLE e o n = .ok v ↔ o + n ≤ e.length ∧ leNat (slice e o n) = v := by
  unfold entryLE; split <;> simp [*]

theorem takePString_at (bs : Bytes) (o : Nat) (h : o < bs.length) :
    takePString (bs.drop o) =
      if (bs.getD o 0).toNat ≤ bs.length - (o + 1) then
        .ok (slice bs (o + 1) (bs.getD o 0).toNat, bs.drop (o + 1 + (bs.getD o 0).toNat))
      else .err .format := by
  unfold takePString
  rw [List.drop_eq_getElem_cons h]
  simp only [pstringDecode, ← List.getElem_eq_getD (h := h) 0, List.length_drop]
  by_cases hl : bs[o].toNat ≤ bs.length - (o + 1)
  · simp [hl, slice, List.drop_drop]
  · simp [hl]

/-- makes the lemmas above, stated on `bs.drop o`, fire from the first read of a parser on -/
theorem parse_at_zero {α : Type} (p : Bytes → Outcome α) (bs : Bytes) : p bs = p (bs.drop 0) := rfl

theorem pstring_roundtrip (s rest : Bytes) (h : s.length ≤ 255) :
    pstringDecode (pstringEncode s ++ rest) = some (s, rest) := by
  have hm : s.length % 256 = s.length := by omega
  simp [pstringEncode, pstringDecode, hm]

theorem takeLE_append (a b : Bytes) (n : Nat) (h : a.length = n) :
    takeLE (a ++ b) n = .ok (leNat a, b) := by
  subst h
  simp [takeLE]

theorem takeBytes_append (a b : Bytes) (n : Nat) (h : a.length = n) :
    takeBytes (a ++ b) n = .ok (a, b) := by
  subst h
  simp [takeBytes]

theorem takeLE_leBytes (v n : Nat) (b : Bytes) :
    takeLE (leBytes v n ++ b) n = .ok (v % 256 ^ n, b) := by
  rw [takeLE_append _ _ _ (leBytes_length v n), leNat_leBytes]

theorem takeLE_leBytesInt (v : Int) (n : Nat) (b : Bytes) :
    takeLE (leBytesInt v n ++ b) n = .ok (leNat (leBytesInt v n), b) :=
  takeLE_append _ _ _ (by simp [leBytesInt, leBytes_length])

theorem takeLE_one (x : UInt8) (b : Bytes) : takeLE (x :: b) 1 = .ok (x.toNat, b) := by
  simp [takeLE, leNat]

theorem takePString_encode (s rest : Bytes) (h : s.length ≤ 255) :
    takePString (pstringEncode s ++ rest) = .ok (s, rest) := by
  simp [takePString, pstring_roundtrip s rest h]

/-! The equations of `RawProp.decode`. On `info :: rest` the decoder is an if-chain on the type nibble:
`show ite _ _ _ = _` exposes it by unfolding, the nibble is
put in, and the conditions evaluate. -/

namespace RawProp

variable {info : UInt8} {rest : Bytes}

theorem decode_padding (h : info.toNat / 16 = 0) :
    decode (info :: rest) = .ok (⟨info.toNat % 16 + 1, [], .padding⟩, rest) := by
  show ite _ _ _ = _; rw [h]; rfl

theorem decode_content (h : info.toNat / 16 = 1) :
    decode (info :: rest) =
      (let d := info.toNat % 16
       let ps := (d / 4) % 2 + 1
       let cs := d % 4 + 1
       if d / 8 = 1 then
         (takeLE rest ps).bind fun x => (takePString x.2).bind fun y =>
           .ok (⟨cs, y.1, .content ps cs (some (x.1 % 65536))⟩, y.2)
       else (takePString rest).bind fun y => .ok (⟨cs + ps, y.1, .content ps cs none⟩, y.2)) := by
  show ite _ _ _ = _; rw [h]; rfl

theorem decode_int (h : info.toNat / 16 = 2 ∨ info.toNat / 16 = 3) :
    decode (info :: rest) =
      (let ty := info.toNat / 16
       let sz := info.toNat % 16 % 8 + 1
       if info.toNat % 16 / 8 = 1 then
         (takeLE rest sz).bind fun x => (takePString x.2).bind fun y =>
           .ok (⟨0, y.1, if ty = 2 then .uint sz (some x.1) else .sint sz (some (signExtend x.1 sz))⟩, y.2)
       else (takePString rest).bind fun y => .ok (⟨sz, y.1, if ty = 2 then .uint sz none else .sint sz none⟩, y.2)) := by
  show ite _ _ _ = _; rcases h with h | h <;> rw [h] <;> rfl

theorem decode_todo (h : info.toNat / 16 = 4) :
    decode (info :: rest) = .panic "prop_type.rs: todo!() (redirection / sub-range property)" := by
  show ite _ _ _ = _; rw [h]; rfl

theorem decode_array {c : UInt8} {r1 : Bytes} (h : info.toNat / 16 = 5) :
    decode (info :: c :: r1) =
      (let d := info.toNat % 16
       let lenSize := if d % 4 = 0 then none else some (d % 4)
       let fixedLen := c.toNat % 32
       let keySize := c.toNat / 32
       (if keySize ≠ 0 then (takeLE r1 1).bind fun x => .ok (some (keySize, x.1), x.2) else .ok (none, r1)).bind fun dep =>
         if d / 8 = 1 then
           match lenSize with
           | none => .panic "raw_layout.rs: array_len_size.unwrap() on a default array without length"
           | some l =>
             (takeLE dep.2 l).bind fun sz => (takeBytes sz.2 fixedLen).bind fun fixed =>
               (if keySize ≠ 0 then (takeLE fixed.2 keySize).bind fun x => .ok (some x.1, x.2) else .ok (none, fixed.2)).bind fun kid =>
                 (takePString kid.2).bind fun nm =>
                   .ok (⟨0, nm.1, .array lenSize fixedLen dep.1 (some (sz.1, fixed.1, kid.1))⟩, nm.2)
         else (takePString dep.2).bind fun nm =>
           .ok (⟨d % 4 + fixedLen + keySize, nm.1, .array lenSize fixedLen dep.1 none⟩, nm.2)) := by
  show ite _ _ _ = _; rw [h]; rfl

theorem decode_array_nil (h : info.toNat / 16 = 5) : decode [info] = .err .format := by
  show ite _ _ _ = _; rw [h]; rfl

theorem decode_variantId (h : info.toNat / 16 = 8) :
    decode (info :: rest) = (takePString rest).bind fun y => .ok (⟨1, y.1, .variantId⟩, y.2) := by
  show ite _ _ _ = _; rw [h]; rfl

theorem decode_deported (h : info.toNat / 16 = 10 ∨ info.toNat / 16 = 11) :
    decode (info :: rest) =
      (let ty := info.toNat / 16
       let sz := info.toNat % 16 % 8 + 1
       (takeLE rest 1).bind fun kb => (takeLE kb.2 1).bind fun si =>
         if info.toNat % 16 / 8 = 1 then
           (takeLE si.2 (kb.1 % 8 + 1)).bind fun kv => (takePString kv.2).bind fun y =>
             .ok (⟨0, y.1, .deportedInt (ty = 11) sz si.1 (.inl kv.1)⟩, y.2)
         else (takePString si.2).bind fun y =>
           .ok (⟨kb.1 % 8 + 1, y.1, .deportedInt (ty = 11) sz si.1 (.inr (kb.1 % 8 + 1))⟩, y.2)) := by
  show ite _ _ _ = _; rcases h with h | h <;> rw [h] <;> rfl

theorem decode_unknown
    (h : info.toNat / 16 = 6 ∨ info.toNat / 16 = 7 ∨ info.toNat / 16 = 9 ∨ info.toNat / 16 = 12 ∨ info.toNat / 16 = 13 ∨
      info.toNat / 16 = 14 ∨ info.toNat / 16 = 15) :
    decode (info :: rest) = .err .format := by
  show ite _ _ _ = _
  rcases h with h | h | h | h | h | h | h <;> rw [h] <;> rfl

end RawProp
end Jubako
