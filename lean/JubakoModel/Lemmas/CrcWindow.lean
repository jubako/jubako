/-
Two byte strings that pass `checkBlock` (`Model/Crc.lean`) and differ at most within four consecutive positions are
equal, so any alteration confined to such a window of a block `data ‖ be32 (crc32c data)` is detected.  The bit step
is GF(2)-linear for every polynomial and injective for every odd one; a register below `2^24` takes a byte in by a
plain shift, so four byte-feeds are `crcStep8^4 (state ^^^ beWord p a b c d)` with the word built the same way.  A
primed lemma is the general one, for any polynomial `p`; the unprimed name is its instance at `crcPolyU`.
-/
import JubakoModel.Lemmas.Codec

namespace Jubako

theorem shr31_eq_one_iff (c : UInt32) : c >>> 31 = 1 ↔ c.toBitVec.msb = true := by
  rw [← UInt32.toBitVec_inj, BitVec.msb_eq_decide]
  simp only [UInt32.toBitVec_shiftRight, decide_eq_true_eq]
  rw [← BitVec.toNat_inj]
  have := c.toNat_lt
  simp [BitVec.toNat_ushiftRight, Nat.shiftRight_eq_div_pow]
  omega

theorem stepBit_eq (p c : UInt32) :
    crcStepBit p c = (c <<< 1) ^^^ (if c.toBitVec.msb then p else 0) := by
  unfold crcStepBit
  by_cases h : c.toBitVec.msb = true
  · rw [if_pos ((shr31_eq_one_iff c).2 h), if_pos h]
  · rw [if_neg (fun h' => h ((shr31_eq_one_iff c).1 h')), if_neg h]; simp

theorem stepBit_xor' (p a b : UInt32) :
    crcStepBit p (a ^^^ b) = crcStepBit p a ^^^ crcStepBit p b := by
  rw [stepBit_eq, stepBit_eq, stepBit_eq]
  have hm : (a ^^^ b).toBitVec.msb = (a.toBitVec.msb ^^ b.toBitVec.msb) := by
    simp [BitVec.msb_xor]
  rw [hm, UInt32.shiftLeft_xor]
  cases a.toBitVec.msb <;> cases b.toBitVec.msb <;> simp
  · ac_rfl
  · ac_rfl
  · have : a <<< 1 ^^^ p ^^^ (b <<< 1 ^^^ p) = p ^^^ p ^^^ (a <<< 1 ^^^ b <<< 1) := by ac_rfl
    rw [this, UInt32.xor_self, UInt32.zero_xor]

theorem stepBit_zero' (p : UInt32) : crcStepBit p 0 = 0 := by
  rw [stepBit_eq]; simp

theorem stepBit_lsb (p c : UInt32) (hp : p.toBitVec.getLsbD 0 = true) :
    (crcStepBit p c).toBitVec.getLsbD 0 = c.toBitVec.msb := by
  rw [stepBit_eq]
  cases c.toBitVec.msb <;> simp [hp]

theorem stepBit_inj' (p a b : UInt32) (hp : p.toBitVec.getLsbD 0 = true)
    (h : crcStepBit p a = crcStepBit p b) : a = b := by
  have hm : a.toBitVec.msb = b.toBitVec.msb := by
    rw [← stepBit_lsb p a hp, ← stepBit_lsb p b hp, h]
  rw [stepBit_eq, stepBit_eq, hm] at h
  have hs : a <<< 1 = b <<< 1 := by
    have := congrArg (· ^^^ (if b.toBitVec.msb = true then p else 0)) h
    simpa [UInt32.xor_assoc] using this
  apply UInt32.toBitVec_inj.1
  have hs' := congrArg UInt32.toBitVec hs
  simp only [UInt32.toBitVec_shiftLeft] at hs'
  apply BitVec.eq_of_getLsbD_eq
  intro i hi
  by_cases h31 : i = 31
  · subst h31
    simpa [BitVec.msb_eq_getLsbD_last] using hm
  · have := congrArg (fun v => v.getLsbD (i+1)) hs'
    simp [BitVec.getLsbD_shiftLeft] at this
    have hlt : i + 1 < 32 := by omega
    simpa [hlt] using this

theorem stepBit_small (p x : UInt32) (h : x.toNat < 2 ^ 31) :
    (crcStepBit p x).toNat = 2 * x.toNat := by
  have hm : x.toBitVec.msb = false := by
    rw [BitVec.msb_eq_decide]; simp; exact h
  rw [stepBit_eq, hm]
  simp [UInt32.toNat_shiftLeft, Nat.shiftLeft_eq]
  omega

theorem step8_xor' (p a b : UInt32) :
    crcStep8 p (a ^^^ b) = crcStep8 p a ^^^ crcStep8 p b := by
  simp only [crcStep8, stepBit_xor']

theorem step8_zero' (p : UInt32) : crcStep8 p 0 = 0 := by
  simp only [crcStep8, stepBit_zero']

theorem step8_inj' (p a b : UInt32) (hp : p.toBitVec.getLsbD 0 = true)
    (h : crcStep8 p a = crcStep8 p b) : a = b := by
  unfold crcStep8 at h
  iterate 8 replace h := stepBit_inj' p _ _ hp h
  exact h

theorem stepBit_repeat_small (p x : UInt32) (k : Nat) (h : 2 ^ k * x.toNat < 2 ^ 32) :
    (Nat.repeat (crcStepBit p) k x).toNat = 2 ^ k * x.toNat := by
  induction k with
  | zero => rw [Nat.pow_zero, Nat.one_mul]; rfl
  | succ k ih =>
    rw [Nat.pow_succ, Nat.mul_right_comm] at h ⊢
    rw [Nat.repeat, stepBit_small _ _ (by rw [ih (by omega)]; omega), ih (by omega), Nat.mul_comm]

theorem step8_small (p x : UInt32) (h : x.toNat < 2 ^ 24) :
    (crcStep8 p x).toNat = 256 * x.toNat :=
  stepBit_repeat_small p x 8 (by omega)

theorem shl_xor_eq_add (y x k : Nat) (h : x < 2 ^ k) : (y <<< k) ^^^ x = y <<< k + x := by
  rw [Nat.shiftLeft_add_eq_or_of_lt h]
  apply Nat.eq_of_testBit_eq
  intro i
  simp only [Nat.testBit_xor, Nat.testBit_or, Nat.testBit_shiftLeft]
  by_cases hi : k ≤ i
  · have : x.testBit i = false :=
      Nat.testBit_lt_two_pow (Nat.lt_of_lt_of_le h (Nat.pow_le_pow_right (by omega) hi))
    simp [this]
  · simp [hi]

/-- a register below `2^24` takes a byte in: the step is a shift by 8 bits and the byte fills the vacated ones -/
theorem step8_xor_byte (p x : UInt32) (b : UInt8) (h : x.toNat < 2 ^ 24) :
    (crcStep8 p x ^^^ b.toUInt32).toNat = 256 * x.toNat + b.toNat := by
  rw [UInt32.toNat_xor, step8_small p x h, UInt8.toNat_toUInt32, Nat.mul_comm, ← Nat.shiftLeft_eq _ 8,
    shl_xor_eq_add _ _ _ b.toNat_lt]

/-- the 32-bit word whose big-endian bytes are `a b c d`, built as the register builds it (`p` plays no part: below
    `2^24` a step is a shift) -/
def beWord (p : UInt32) (a b c d : UInt8) : UInt32 :=
  crcStep8 p (crcStep8 p (crcStep8 p a.toUInt32 ^^^ b.toUInt32) ^^^ c.toUInt32) ^^^ d.toUInt32

theorem beWord_toNat (p : UInt32) (a b c d : UInt8) :
    (beWord p a b c d).toNat = a.toNat * 16777216 + b.toNat * 65536 + c.toNat * 256 + d.toNat := by
  have ha := a.toNat_lt; have hb := b.toNat_lt; have hc := c.toNat_lt
  have h1 := step8_xor_byte p a.toUInt32 b (by rw [UInt8.toNat_toUInt32]; omega)
  have h2 := step8_xor_byte p _ c (by rw [h1, UInt8.toNat_toUInt32]; omega)
  rw [beWord, step8_xor_byte p _ d (by rw [h2, h1, UInt8.toNat_toUInt32]; omega), h2, h1, UInt8.toNat_toUInt32]
  omega

theorem shl24_eq_step8 (p : UInt32) (b : UInt8) :
    b.toUInt32 <<< 24 = crcStep8 p (crcStep8 p (crcStep8 p b.toUInt32)) := by
  have hb := b.toNat_lt
  have h1 := step8_small p b.toUInt32 (by rw [UInt8.toNat_toUInt32]; omega)
  have h2 := step8_small p _ (by rw [h1, UInt8.toNat_toUInt32]; omega)
  apply UInt32.toNat_inj.1
  rw [step8_small p _ (by rw [h2, h1, UInt8.toNat_toUInt32]; omega), h2, h1, UInt32.toNat_shiftLeft,
    UInt8.toNat_toUInt32, Nat.shiftLeft_eq]
  simp only [UInt32.reduceToNat, Nat.reduceMod, Nat.reducePow]
  omega

theorem feed4_eq (p s : UInt32) (a b c d : UInt8) :
    crcFeed p s [a, b, c, d]
      = crcStep8 p (crcStep8 p (crcStep8 p (crcStep8 p (s ^^^ beWord p a b c d)))) := by
  simp only [crcFeed, List.foldl_cons, List.foldl_nil, crcByte, beWord, shl24_eq_step8 p, step8_xor',
    UInt32.xor_assoc]

theorem u8_shl24_xor (b b' : UInt8) :
    (b ^^^ b').toUInt32 <<< 24 = (b.toUInt32 <<< 24) ^^^ (b'.toUInt32 <<< 24) := by
  rw [UInt8.toUInt32_xor, UInt32.shiftLeft_xor]

theorem crcByte_xor' (p c c' : UInt32) (b b' : UInt8) :
    crcByte p (c ^^^ c') (b ^^^ b') = crcByte p c b ^^^ crcByte p c' b' := by
  simp only [crcByte, u8_shl24_xor, ← step8_xor']
  generalize b.toUInt32 <<< 24 = x
  generalize b'.toUInt32 <<< 24 = y
  congr 1
  ac_rfl

theorem crcByte_zero' (p : UInt32) : crcByte p 0 0 = 0 := by
  simp [crcByte, step8_zero']

theorem crcByte_inj_state' (p : UInt32) (hp : p.toBitVec.getLsbD 0 = true) (b : UInt8)
    (c c' : UInt32) (h : crcByte p c b = crcByte p c' b) : c = c' := by
  have := step8_inj' p _ _ hp h
  have h2 := congrArg (· ^^^ (b.toUInt32 <<< 24)) this
  simpa [UInt32.xor_assoc] using h2

/-- linearity over byte strings (`crcByte_xor'`, `crcFeed_xor'`) is for `c05_collision_characterisation`; the window
    theorem uses `crcFeed_append` and `crcFeed_inj_state'` only -/
def xorBytes : Bytes → Bytes → Bytes := List.zipWith (· ^^^ ·)

theorem crcFeed_nil (p c : UInt32) : crcFeed p c [] = c := rfl
theorem crcFeed_cons (p c : UInt32) (b : UInt8) (bs : Bytes) :
    crcFeed p c (b :: bs) = crcFeed p (crcByte p c b) bs := rfl

theorem crcFeed_append (p c : UInt32) (a b : Bytes) :
    crcFeed p c (a ++ b) = crcFeed p (crcFeed p c a) b := by
  simp [crcFeed, List.foldl_append]

theorem crcFeed_xor' (p c c' : UInt32) (a e : Bytes) (h : a.length = e.length) :
    crcFeed p (c ^^^ c') (xorBytes a e) = crcFeed p c a ^^^ crcFeed p c' e := by
  induction a generalizing c c' e with
  | nil => cases e with
    | nil => rfl
    | cons _ _ => simp at h
  | cons x a ih => cases e with
    | nil => simp at h
    | cons y e =>
      simp only [List.length_cons, Nat.add_right_cancel_iff] at h
      simp only [xorBytes, List.zipWith_cons_cons, crcFeed_cons, crcByte_xor']
      exact ih _ _ _ h

theorem crcFeed_zeros' (p : UInt32) (n : Nat) : crcFeed p 0 (List.replicate n 0) = 0 := by
  induction n with
  | zero => rfl
  | succ n ih => rw [List.replicate_succ, crcFeed_cons, crcByte_zero', ih]

theorem crcFeed_inj_state' (p : UInt32) (hp : p.toBitVec.getLsbD 0 = true) (bs : Bytes)
    (c c' : UInt32) (h : crcFeed p c bs = crcFeed p c' bs) : c = c' := by
  induction bs generalizing c c' with
  | nil => exact h
  | cons b bs ih => exact crcByte_inj_state' p hp b _ _ (ih _ _ h)

theorem crcFeed_zeros_eq_zero_iff' (p : UInt32) (hp : p.toBitVec.getLsbD 0 = true) (n : Nat)
    (c : UInt32) : crcFeed p c (List.replicate n 0) = 0 ↔ c = 0 := by
  constructor
  · intro h
    rw [← crcFeed_zeros' p n] at h
    exact crcFeed_inj_state' p hp _ _ _ h
  · rintro rfl; exact crcFeed_zeros' p n

theorem step8_eq_zero_iff' (p : UInt32) (hp : p.toBitVec.getLsbD 0 = true) (a : UInt32) :
    crcStep8 p a = 0 ↔ a = 0 :=
  ⟨fun h => step8_inj' p _ _ hp (h.trans (step8_zero' p).symm), fun h => by rw [h, step8_zero']⟩

theorem feed4_zero_iff' (p : UInt32) (hp : p.toBitVec.getLsbD 0 = true) (s : UInt32)
    (l : Bytes) (hl : l.length = 4) : crcFeed p s l = 0 ↔ s.toNat = be32Nat l := by
  match l, hl with
  | [a, b, c, d], _ =>
    rw [feed4_eq, step8_eq_zero_iff' p hp, step8_eq_zero_iff' p hp, step8_eq_zero_iff' p hp, step8_eq_zero_iff' p hp,
      UInt32.xor_eq_zero_iff, be32Nat, ← beWord_toNat p, UInt32.toNat_inj]

theorem polyU_lsb : crcPolyU.toBitVec.getLsbD 0 = true := by decide

theorem checkBlock_iff (full : Bytes) (h : 4 ≤ full.length) :
    checkBlock full = true ↔ crcFeed crcPolyU crcInitU full = 0 := by
  have hd : (full.drop (full.length - 4)).length = 4 := by simp; omega
  conv => rhs; rw [← List.take_append_drop (full.length - 4) full, crcFeed_append]
  rw [feed4_zero_iff' crcPolyU polyU_lsb _ _ hd]
  simp [checkBlock, crc32c]

theorem be32_beWord (p : UInt32) (a b c d : UInt8) : be32 (beWord p a b c d).toNat = [a, b, c, d] := by
  rw [beWord_toNat]; exact be32_be32Nat [a, b, c, d] rfl

/-- the word `s ^^^ beWord p a b c d` goes through four injective steps -/
theorem feed4_inj' (p : UInt32) (hp : p.toBitVec.getLsbD 0 = true) (s : UInt32) (w w' : Bytes)
    (hl : w.length = 4) (hl' : w'.length = 4) (h : crcFeed p s w = crcFeed p s w') : w = w' := by
  match w, hl, w', hl' with
  | [a, b, c, d], _, [a', b', c', d'], _ =>
    rw [feed4_eq, feed4_eq] at h
    rw [← be32_beWord p a b c d, (UInt32.xor_right_inj s).1
      (step8_inj' p _ _ hp (step8_inj' p _ _ hp (step8_inj' p _ _ hp (step8_inj' p _ _ hp h)))), be32_beWord]

/-- shorter strings: pad both with zeros to a word -/
theorem feed_short_inj' (p : UInt32) (hp : p.toBitVec.getLsbD 0 = true) (s : UInt32) (w w' : Bytes)
    (hl : w.length = w'.length) (h4 : w.length ≤ 4) (h : crcFeed p s w = crcFeed p s w') : w = w' :=
  List.append_cancel_right (bs := List.replicate (4 - w.length) 0) <|
    feed4_inj' p hp s _ _ (by rw [List.length_append, List.length_replicate]; omega)
      (by rw [List.length_append, List.length_replicate]; omega) (by rw [crcFeed_append, crcFeed_append, h])

/-- The common prefix leads to one state, the common suffix is peeled off by injectivity in the state, and the window
    in between is `feed_short_inj'`. -/
theorem crcFeed_window_inj' (p : UInt32) (hp : p.toBitVec.getLsbD 0 = true) (c : UInt32) (a b : Bytes)
    (hl : a.length = b.length) (i : Nat)
    (hsame : ∀ k, k < a.length → (k < i ∨ i + 4 ≤ k) → a[k]? = b[k]?)
    (h : crcFeed p c a = crcFeed p c b) : a = b := by
  have hs : ∀ k, (k < i ∨ i + 4 ≤ k) → a[k]? = b[k]? := fun k hk =>
    (Nat.lt_or_ge k a.length).elim (hsame k · hk) fun hge =>
      (List.getElem?_eq_none hge).trans (List.getElem?_eq_none (hl ▸ hge)).symm
  have hpre : a.take i = b.take i := List.ext_getElem? fun k => by
    rw [List.getElem?_take, List.getElem?_take]; split
    · exact hs k (.inl ‹_›)
    · rfl
  have hpost : a.drop (i + 4) = b.drop (i + 4) := List.ext_getElem? fun k => by
    rw [List.getElem?_drop, List.getElem?_drop]; exact hs _ (.inr (by omega))
  have split3 : ∀ l : Bytes, l = l.take i ++ (slice l i 4 ++ l.drop (i + 4)) := fun l => by
    rw [slice, ← List.drop_drop, List.take_append_drop, List.take_append_drop]
  rw [split3 a, split3 b, hpre, hpost] at h ⊢
  simp only [crcFeed_append] at h
  rw [feed_short_inj' p hp _ _ _ (by rw [slice_length_eq, slice_length_eq, hl]) (by rw [slice_length_eq]; omega)
    (crcFeed_inj_state' p hp _ _ _ h)]

theorem checkBlock_window_inj {a b : Bytes} (hl : a.length = b.length) (h4 : 4 ≤ a.length)
    (ha : checkBlock a = true) (hb : checkBlock b = true) (i : Nat)
    (hsame : ∀ k, k < a.length → (k < i ∨ i + 4 ≤ k) → a[k]? = b[k]?) : a = b :=
  crcFeed_window_inj' crcPolyU polyU_lsb crcInitU a b hl i hsame
    (((checkBlock_iff a h4).1 ha).trans ((checkBlock_iff b (hl ▸ h4)).1 hb).symm)

theorem crc_detects_window (d : Bytes) (alt : Bytes) (hl : alt.length = (block d).length)
    (i : Nat)
    (hsame : ∀ k, k < alt.length → (k < i ∨ i + 4 ≤ k) → alt[k]? = (block d)[k]?)
    (hdiff : alt ≠ block d) : checkBlock alt = false :=
  Bool.eq_false_iff.2 fun h => hdiff <|
    checkBlock_window_inj hl (by rw [hl, block_length]; omega) h (checkBlock_block d) i hsame

/-! Instances at `crcPolyU` (of them only `crcFeed_xor` has a user, `c05_collision_characterisation`). -/

theorem stepBit_xor (a b : UInt32) :
    crcStepBit crcPolyU (a ^^^ b) = crcStepBit crcPolyU a ^^^ crcStepBit crcPolyU b :=
  stepBit_xor' _ a b

theorem stepBit_zero : crcStepBit crcPolyU 0 = 0 := stepBit_zero' _

theorem stepBit_inj (a b : UInt32) (h : crcStepBit crcPolyU a = crcStepBit crcPolyU b) : a = b :=
  stepBit_inj' _ a b polyU_lsb h

theorem stepBit_eq_zero_iff (a : UInt32) : crcStepBit crcPolyU a = 0 ↔ a = 0 := by
  constructor
  · intro h; rw [← stepBit_zero] at h; exact stepBit_inj _ _ h
  · rintro rfl; exact stepBit_zero

theorem crcByte_xor (c c' : UInt32) (b b' : UInt8) :
    crcByte crcPolyU (c ^^^ c') (b ^^^ b') = crcByte crcPolyU c b ^^^ crcByte crcPolyU c' b' :=
  crcByte_xor' _ c c' b b'

theorem crcByte_zero : crcByte crcPolyU 0 0 = 0 := crcByte_zero' _

theorem crcFeed_xor (c c' : UInt32) (a e : Bytes) (h : a.length = e.length) :
    crcFeed crcPolyU (c ^^^ c') (xorBytes a e) = crcFeed crcPolyU c a ^^^ crcFeed crcPolyU c' e :=
  crcFeed_xor' _ c c' a e h

theorem crcFeed_zeros (n : Nat) : crcFeed crcPolyU 0 (List.replicate n 0) = 0 :=
  crcFeed_zeros' _ n

theorem crcFeed_inj_state (bs : Bytes) (c c' : UInt32)
    (h : crcFeed crcPolyU c bs = crcFeed crcPolyU c' bs) : c = c' :=
  crcFeed_inj_state' _ polyU_lsb bs c c' h

theorem crcFeed_zeros_eq_zero_iff (n : Nat) (c : UInt32) :
    crcFeed crcPolyU c (List.replicate n 0) = 0 ↔ c = 0 :=
  crcFeed_zeros_eq_zero_iff' _ polyU_lsb n c

theorem feed_be32_zero_iff (c : UInt32) (v : Nat) (hv : v < 2 ^ 32) :
    crcFeed crcPolyU c (be32 v) = 0 ↔ c.toNat = v := by
  rw [feed4_zero_iff' crcPolyU polyU_lsb c _ (be32_length v), be32Nat_be32 v hv]

end Jubako
