/-
Generic facts about the `Outcome` monad: `bind` and `map'`; "a value or an error, never a crash"
(`isValueOrError`); `Outcome.Same`, equality up to the text of a panic, which is what the ties of translated
readers can state; `foldlM` in `Outcome`: collecting over a range, and the walk that answers `false` from the first
`false` on (`foldlM_all*`).
-/
import JubakoModel.Model.Bytes

namespace Jubako

@[simp] theorem Outcome.bind_ok {α β : Type} (a : α) (f : α → Outcome β) : (Outcome.ok a).bind f = f a := rfl
@[simp] theorem Outcome.bind_err {α β : Type} (k : ErrKind) (f : α → Outcome β) : (Outcome.err k : Outcome α).bind f = .err k := rfl
@[simp] theorem Outcome.bind_panic {α β : Type} (s : String) (f : α → Outcome β) : (Outcome.panic s : Outcome α).bind f = .panic s := rfl
@[simp] theorem Outcome.map'_ok {α β : Type} (a : α) (g : α → β) : (Outcome.ok a).map' g = .ok (g a) := rfl
@[simp] theorem Outcome.map'_err {α β : Type} (k : ErrKind) (g : α → β) : (Outcome.err k : Outcome α).map' g = .err k := rfl
@[simp] theorem Outcome.map'_panic {α β : Type} (s : String) (g : α → β) : (Outcome.panic s : Outcome α).map' g = .panic s := rfl

/-- the same for `>>=`, as `do` blocks have it -/
@[simp] theorem Outcome.ok_bind {α β} (a : α) (f : α → Outcome β) : (Outcome.ok a >>= f) = f a := rfl
@[simp] theorem Outcome.pure_eq_ok {α} (a : α) : (pure a : Outcome α) = Outcome.ok a := rfl

namespace Outcome

variable {α β γ δ : Type}

theorem bind_eq_ok {x : Outcome α} {f : α → Outcome β} {b : β} :
    x.bind f = .ok b ↔ ∃ a, x = .ok a ∧ f a = .ok b := by
  cases x with
  | ok a => exact ⟨fun h => ⟨a, rfl, h⟩, fun ⟨_, ha, h⟩ => Outcome.ok.inj ha ▸ h⟩
  | _ => exact ⟨nofun, fun ⟨_, ha, _⟩ => nomatch ha⟩

theorem bind_congr {x : Outcome α} {f g : α → Outcome β} (h : ∀ a, x = .ok a → f a = g a) :
    x.bind f = x.bind g := by
  cases x with
  | ok a => exact h a rfl
  | _ => rfl

theorem map'_bind (x : Outcome α) (f : α → Outcome β) (g : β → γ) :
    (x.bind f).map' g = x.bind (fun a => (f a).map' g) := by
  cases x <;> rfl

theorem bind_map' (x : Outcome α) (p : α → β) (f : β → Outcome γ) : (x.map' p).bind f = x.bind fun a => f (p a) := by
  cases x <;> rfl

theorem bind_assoc' (x : Outcome α) (f : α → Outcome β) (g : β → Outcome γ) :
    (x.bind f).bind g = x.bind (fun a => (f a).bind g) := by
  cases x <;> rfl

theorem bind_ok_right (x : Outcome α) : x.bind .ok = x := by cases x <;> rfl

theorem map'_eq_bind (x : Outcome α) (f : α → β) : x.map' f = x.bind (fun b => .ok (f b)) := by
  cases x <;> rfl

/-- forget the text of a panic (the generated code carries none) -/
def erase : Outcome α → Outcome α
  | .panic _ => .panic ""
  | o => o

def Same (a b : Outcome α) : Prop := a.erase = b.erase

@[simp] theorem Same.rfl {a : Outcome α} : a.Same a := Eq.refl _
theorem Same.of_eq {a b : Outcome α} (h : a = b) : a.Same b := h ▸ .rfl
theorem Same.trans {a b c : Outcome α} (h₁ : a.Same b) (h₂ : b.Same c) : a.Same c := Eq.trans h₁ h₂

@[simp] theorem Same.panic (s t : String) : (Outcome.panic s : Outcome α).Same (.panic t) := Eq.refl _

theorem Same.bind {x y : Outcome α} {f g : α → Outcome β} (hx : x.Same y) (hf : ∀ a, (f a).Same (g a)) :
    (x.bind f).Same (y.bind g) := by
  cases x <;> cases y <;> cases hx <;> first | exact hf _ | rfl

theorem Same.bind_right {x : Outcome α} {f g : α → Outcome β} (h : ∀ a, x = .ok a → (f a).Same (g a)) :
    (x.bind f).Same (x.bind g) := by
  cases x with
  | ok a => exact h a (Eq.refl _)
  | _ => rfl

/-- `Same.bind_right` as a rewrite rule for `simp` -/
theorem Same.bind_right_iff (x : Outcome α) (f g : α → Outcome β) :
    (x.bind f).Same (x.bind g) ↔ ∀ a, x = .ok a → (f a).Same (g a) :=
  ⟨fun h a hx => by subst hx; exact h, Same.bind_right⟩

/-- how the tie of a sub-parser is used inside a bigger one: agreement up to views `p`, `q` of the results -/
theorem Same.bind_of_map' {x : Outcome α} {y : Outcome γ} {p : α → δ} {q : γ → δ}
    (h : (x.map' p).Same (y.map' q)) {f : α → Outcome β} {g : γ → Outcome β}
    (hfg : ∀ a c, p a = q c → (f a).Same (g c)) : (x.bind f).Same (y.bind g) := by
  cases x <;> cases y <;> first | exact hfg _ _ (Outcome.ok.inj h) | (cases h <;> rfl)

theorem Same.of_bind_ok {x : Outcome α} {v : α} (hx : x = .ok v) {f : α → Outcome β} {y : Outcome β}
    (h : (f v).Same y) : (x.bind f).Same y := hx ▸ h

end Outcome

theorem isValueOrError_iff {α : Type} (x : Outcome α) :
    x.isValueOrError = true ↔ (∃ a, x = .ok a) ∨ ∃ k, x = .err k := by
  cases x <;> simp [Outcome.isValueOrError]

theorem bind_no_crash {α β} {x : Outcome α} {f : α → Outcome β} (hx : x.isValueOrError = true)
    (hf : ∀ a, (f a).isValueOrError = true) : (x.bind f).isValueOrError = true := by
  cases x with
  | ok a => exact hf a
  | err k => rfl
  | _ => cases hx

theorem map'_isValueOrError {α β : Type} (a : Outcome α) (g : α → β) :
    (a.map' g).isValueOrError = a.isValueOrError := by
  cases a <;> rfl

theorem map'_no_crash {α β} (x : Outcome α) (g : α → β) (h : x.isValueOrError = true) :
    (x.map' g).isValueOrError = true := by
  rw [map'_isValueOrError]; exact h

theorem foldlM_no_crash {α β} (l : List α) (f : β → α → Outcome β) (init : β)
    (hf : ∀ b a, (f b a).isValueOrError = true) : (l.foldlM f init).isValueOrError = true := by
  induction l generalizing init with
  | nil => rfl
  | cons x xs ih =>
    simp only [List.foldlM_cons]
    exact bind_no_crash (hf init x) (fun b => ih b)

theorem Outcome.Same.isValueOrError {α : Type} (a b : Outcome α) (h : a.Same b) :
    a.isValueOrError = b.isValueOrError := by
  cases a <;> cases b <;> simp_all [Outcome.Same, Outcome.erase, Outcome.isValueOrError]

theorem foldlM_range_collect {β : Type} (step : List β → Nat → Outcome (List β)) (items : List β)
    (h : ∀ acc k (hk : k < items.length), step acc k = .ok (acc ++ [items[k]])) :
    (List.range items.length).foldlM step [] = .ok items := by
  have key : ∀ n k acc, k + n = items.length →
      (List.range' k n).foldlM step acc = .ok (acc ++ items.drop k) := by
    intro n
    induction n with
    | zero => intro k acc hk; rw [List.drop_of_length_le (by omega), List.append_nil]; rfl
    | succ n ih =>
      intro k acc hk
      rw [List.range'_succ, List.foldlM_cons, h acc k (by omega), Outcome.ok_bind, ih _ _ (by omega),
        List.append_assoc, List.singleton_append, List.getElem_cons_drop]
  rw [List.range_eq_range', key _ 0 [] (Nat.zero_add _), List.nil_append, List.drop_zero]

/-! A walk that answers `false` from the first `false` on (`ContainerPack::check`, `Container::check`). -/

theorem foldlM_all_false {α : Type} (step : α → Outcome Bool) (l : List α) :
    l.foldlM (fun acc a => if !acc then pure false else step a) false = .ok false := by
  induction l with
  | nil => rfl
  | cons a l ih => exact ih

/-- the verdicts as a list beside `l`: the form the tie of `Container::check` has them in -/
theorem foldlM_all_map {α : Type} (step : α → Outcome Bool) (l : List α) (bs : List Bool)
    (h : l.map step = bs.map .ok) :
    l.foldlM (fun acc a => if !acc then pure false else step a) true = .ok (bs.all id) := by
  induction l generalizing bs with
  | nil => cases bs with
    | nil => rfl
    | cons => cases h
  | cons a l ih =>
    cases bs with
    | nil => cases h
    | cons b bs =>
      obtain ⟨ha, hl⟩ := List.cons.inj h
      show (step a >>= fun acc => l.foldlM _ acc) = _
      rw [ha, Outcome.ok_bind, List.all_cons]
      cases b with
      | true => exact ih bs hl
      | false => exact foldlM_all_false step l

theorem foldlM_all {α : Type} (step : α → Outcome Bool) (v : α → Bool) (l : List α)
    (h : ∀ a ∈ l, step a = .ok (v a)) :
    l.foldlM (fun acc a => if !acc then pure false else step a) true = .ok (l.all v) := by
  rw [foldlM_all_map step l (l.map v) (by rw [List.map_map]; exact List.map_congr_left h), List.all_map]
  rfl

theorem foldlM_all_true_iff {α : Type} (step : α → Outcome Bool) (l : List α) :
    l.foldlM (fun acc a => if !acc then pure false else step a) true = .ok true ↔
      ∀ a ∈ l, step a = .ok true := by
  refine ⟨fun h => ?_, fun h => ?_⟩
  · induction l with
    | nil => nofun
    | cons a l ih =>
      obtain ⟨b, hs, h⟩ := Outcome.bind_eq_ok.1 (show (step a >>= fun acc => l.foldlM _ acc) = _ from h)
      cases b with
      | false => rw [foldlM_all_false] at h; cases h
      | true =>
        intro j hj
        rcases List.mem_cons.mp hj with rfl | hj
        · exact hs
        · exact ih h j hj
  · rw [foldlM_all step (fun _ => true) l h, List.all_eq_true.mpr fun _ _ => rfl]

end Jubako
