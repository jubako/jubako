/-
The decoder's statement sequences and the readers' wait condition extracted / translated from
`bases/io/compression.rs` on every run (Generated/FuncsSync.lean) are those of the SyncVec model.
-/
import JubakoModel.Model.SyncVec
import JubakoModel.Generated.FuncsSync

namespace Jubako

theorem gen_svShapes :
    Generated.svDecoderLoopShape = decoderTurnStmts ∧ Generated.svDecoderOkShape = decoderPublishStmts ∧
    Generated.svDecoderErrShape = decoderFailStmts :=
  ⟨rfl, rfl, rfl⟩

/-- the closure given to `wait_while` in `SyncVecRd::wait_for`, and the result after the wait -/
theorem gen_svWait (s : SV) (end_ : Nat) :
    Generated.svWaitPredicate s.d s.failedFlag end_ = s.keepsWaiting end_ ∧
    Generated.svWaitResult s.d end_ = decide (s.d ≥ end_) := by
  constructor
  · simp only [Generated.svWaitPredicate, SV.keepsWaiting]
    cases s.failedFlag <;> by_cases h : s.d < end_ <;> simp [h]
  · simp only [Generated.svWaitResult]
    by_cases h : s.d < end_ <;> simp [h] <;> omega

/-- `.wake r` is enabled exactly when the translated wait condition is false; it leads to `woke` when the
    translated result is `Ok`, otherwise to `failed` -/
theorem wake_iff_source (s : SV) (r off end_ : Nat) (hr : s.readers[r]? = some (.waiting off end_)) :
    ((s.step (.wake r)).isSome = !Generated.svWaitPredicate s.d s.failedFlag end_) ∧
    (Generated.svWaitResult s.d end_ = true →
      s.step (.wake r) = some { s with readers := s.readers.set r (.woke off end_) }) ∧
    (Generated.svWaitResult s.d end_ = false →
      s.step (.wake r) =
        if s.failedFlag then some { s with readers := s.readers.set r (.failed off end_) } else none) := by
  obtain ⟨h1, h2⟩ := gen_svWait s end_
  rw [h1, h2]
  simp only [SV.step, hr, SV.keepsWaiting, decide_eq_true_eq, decide_eq_false_iff_not]
  refine ⟨?_, fun hd => if_pos hd, fun hd => if_neg hd⟩
  by_cases hd : s.d ≥ end_
  · simp [hd, Nat.not_lt.mpr hd]
  · cases hf : s.failedFlag <;> simp [hd, Nat.lt_of_not_ge hd]

end Jubako
