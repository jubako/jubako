/-
Ties of the lookups of an index (`reader/directory_pack/range.rs`) to the Rust bodies translated from the source
on every run (Generated/FuncsSearch.lean).
-/
import JubakoModel.Model.Search
import JubakoModel.Generated.FuncsSearch

namespace Jubako

/-- The generated loop carries `size` beside `left` and `right`, and the source keeps `size = right - left` at every
    turn: the statement puts `right - left` there, and `bsearchLoop` has no `size`. -/
theorem gen_rangeFind_loop (cmpAt : Nat → Ordering) (ordered : Bool) (off count : Nat) :
    ∀ (fuel left right : Nat), right - left < fuel →
      Generated.rangeFind_loop cmpAt ordered off count (right - left) left right fuel =
        some (bsearchLoop (fun i => cmpAt (off + i)) fuel left right) := by
  intro fuel
  induction fuel with
  | zero => intro l r h; omega
  | succ f ih =>
    intro left right h
    unfold Generated.rangeFind_loop bsearchLoop
    by_cases hlr : left < right
    · simp only [hlr, if_true]
      cases hc : cmpAt (off + (left + (right - left) / 2)) with
      | eq => simp
      | _ =>
        simp only [reduceCtorEq, if_false, if_true]
        exact ih _ _ (by omega)
    · simp [hlr]

theorem gen_rangeFind_linear_loop (cmpAt : Nat → Ordering) (ordered : Bool) (off count : Nat) :
    ∀ (fuel idx : Nat), count - idx < fuel →
      Generated.rangeFind_loop1 cmpAt ordered off count idx fuel =
        some (((List.range' idx (count - idx)).find? (fun i => cmpAt (off + i) == .eq))) := by
  intro fuel
  induction fuel with
  | zero => intro i h; omega
  | succ f ih =>
    intro idx h
    unfold Generated.rangeFind_loop1
    by_cases hi : idx < count
    · have hsplit : count - idx = (count - (idx + 1)) + 1 := by omega
      simp only [hi, if_true]
      rw [hsplit, List.range'_succ, List.find?_cons]
      cases hc : cmpAt (off + idx) with
      | eq => simp
      | _ =>
        simp only [reduceCtorEq, if_false]
        rw [ih (idx + 1) (by omega)]; rfl
    · have : count - idx = 0 := by omega
      simp [hi, this]

/-- `RangeTrait::find` in both modes; `some`: it terminates -/
theorem gen_rangeFind (cmpAt : Nat → Ordering) (ordered : Bool) (off count : Nat) :
    Generated.rangeFind cmpAt ordered off count =
      some (if ordered then findOrdered (fun i => cmpAt (off + i)) count
            else findLinear (fun i => cmpAt (off + i)) count) := by
  unfold Generated.rangeFind
  cases ordered with
  | true => simpa [findOrdered] using gen_rangeFind_loop cmpAt true off count (count + 1) 0 (0 + count) (by omega)
  | false =>
    simpa [findLinear, List.range_eq_range'] using gen_rangeFind_linear_loop cmpAt false off count (count + 1) 0 (by omega)

/-- `RangeTrait::get_entry`; the store's own bound (`off + k < n`) is applied by `create_entry` -/
theorem gen_rangeGetEntry (off count k : Nat) :
    Generated.rangeGetEntry off count k = if k < count then some (off + k) else none := by
  simp [Generated.rangeGetEntry, Generated.idxIsValid]

end Jubako
