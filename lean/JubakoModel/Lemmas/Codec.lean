/- The number codecs of the L0/L1/L2 model round-trip; CRC blocks and how `readBlock` finds them; the header codecs
   round-trip; the pack check (`packCheck`) by its equations. -/
import JubakoModel.Model.Pack
import JubakoModel.Lemmas.Slice
import JubakoModel.Lemmas.OutcomeLemmas

namespace Jubako

theorem toNat_ofNat_u8 (x : Nat) : (UInt8.ofNat x).toNat = x % 256 := by
  simp [UInt8.toNat_ofNat']

theorem leBytes_length (v n : Nat) : (leBytes v n).length = n := by
  induction n generalizing v with
  | zero => simp [leBytes]
  | succ k ih => simp [leBytes, ih]

theorem leNat_leBytes (v n : Nat) : leNat (leBytes v n) = v % 256 ^ n := by
  induction n generalizing v with
  | zero => simp [leBytes, leNat, Nat.mod_one]
  | succ k ih =>
    simp only [leBytes, leNat, ih, toNat_ofNat_u8]
    rw [Nat.pow_succ, Nat.mul_comm (256 ^ k) 256, Nat.mod_mul]
    omega

theorem leNat_leBytes_of_lt (v n : Nat) (h : v < 256 ^ n) : leNat (leBytes v n) = v := by
  rw [leNat_leBytes, Nat.mod_eq_of_lt h]

theorem leNat_lt (bs : Bytes) : leNat bs < 256 ^ bs.length := by
  induction bs with
  | nil => simp [leNat]
  | cons b bs ih =>
    simp only [leNat, List.length_cons, Nat.pow_succ]
    have := b.toNat_lt
    omega

theorem leBytes_leNat (bs : Bytes) : leBytes (leNat bs) bs.length = bs := by
  induction bs with
  | nil => simp [leBytes]
  | cons b bs ih =>
    have hb := b.toNat_lt
    simp only [leNat, List.length_cons, leBytes]
    have h1 : (b.toNat + 256 * leNat bs) % 256 = b.toNat := by omega
    have h2 : (b.toNat + 256 * leNat bs) / 256 = leNat bs := by omega
    rw [h1, h2, ih]
    simp

theorem leBytes_mod (v n : Nat) : leBytes (v % 256 ^ n) n = leBytes v n := by
  have := leBytes_leNat (leBytes v n)
  rwa [leNat_leBytes, leBytes_length] at this

theorem leBytes_one (v : Nat) : leBytes v 1 = [UInt8.ofNat v] := by simp [leBytes, UInt8.ofNat_mod_size']

theorem leNat_slice_one (bs : Bytes) (o : Nat) (h : o < bs.length) : leNat (slice bs o 1) = (bs.getD o 0).toNat := by
  rw [slice, List.drop_eq_getElem_cons h, ← List.getElem_eq_getD (h := h) 0]; rfl

/-! ### be32: big-endian is little-endian read backwards -/

theorem be32_length (v : Nat) : (be32 v).length = 4 := rfl

theorem be32_eq (v : Nat) : be32 v = (leBytes v 4).reverse := by
  simp only [be32, leBytes, List.reverse_cons, List.reverse_nil, List.nil_append, List.cons_append,
    Nat.div_div_eq_div_mul, Nat.reduceMul]

theorem be32Nat_eq (l : Bytes) (hl : l.length = 4) : be32Nat l = leNat l.reverse := by
  match l, hl with
  | [a, b, c, d], _ =>
    simp only [be32Nat, List.reverse_cons, List.reverse_nil, List.nil_append, List.cons_append, leNat]
    omega

theorem be32Nat_be32 (v : Nat) (h : v < 2 ^ 32) : be32Nat (be32 v) = v := by
  rw [be32Nat_eq _ (be32_length v), be32_eq, List.reverse_reverse,
    leNat_leBytes_of_lt v 4 h]

theorem be32_be32Nat (l : Bytes) (hl : l.length = 4) : be32 (be32Nat l) = l := by
  have := leBytes_leNat l.reverse
  rw [List.length_reverse, hl] at this
  rw [be32Nat_eq l hl, be32_eq, this, List.reverse_reverse]

/-- With the fields read off an equation, `omega` is only asked for the linear `hx`, never for a `/` or `%`. -/
theorem nat_fields {x hi lo B : Nat} (hx : x = hi * B + lo) (hlo : lo < B) : x / B = hi ∧ x % B = lo := by
  rw [hx, Nat.mul_comm, Nat.mul_add_div (Nat.zero_lt_of_lt hlo), Nat.mul_add_mod, Nat.div_eq_of_lt hlo,
    Nat.mod_eq_of_lt hlo]
  exact ⟨rfl, rfl⟩

theorem packed_pair (hi lo B M : Nat) (hlo : lo < B) (hM : hi * B + lo < M) :
    (hi * B + lo % B) % M / B = hi ∧ (hi * B + lo % B) % M % B = lo := by
  rw [Nat.mod_eq_of_lt hlo, Nat.mod_eq_of_lt hM]
  exact nat_fields rfl hlo

theorem sizedOffsetEncode_length (o s : Nat) : (sizedOffsetEncode o s).length = 8 := leBytes_length _ 8

theorem sizedOffset_roundtrip (o s : Nat) (ho : o < 2 ^ 48) (hs : s < 2 ^ 16) :
    sizedOffsetDecode (sizedOffsetEncode o s) = (o, s) := by
  have := packed_pair o s 65536 (2 ^ 64) hs (by omega)
  simp only [sizedOffsetDecode, sizedOffsetEncode, leNat_leBytes, Nat.mod_mod, this]

theorem contentInfoEncode_length (c b : Nat) : (contentInfoEncode c b).length = 4 := leBytes_length _ 4

theorem contentInfo_roundtrip (c b : Nat) (hc : c < 2 ^ 20) (hb : b < 2 ^ 12) :
    contentInfoDecode (contentInfoEncode c b) = (c, b) := by
  have := packed_pair c b 4096 (2 ^ 32) hb (by omega)
  simp only [contentInfoDecode, contentInfoEncode, leNat_leBytes, Nat.mod_mod, this]

theorem digits256_spec (fuel v : Nat) (h : v < fuel) : v < 256 ^ digits256 fuel v := by
  induction fuel generalizing v with
  | zero => omega
  | succ f ih =>
    simp only [digits256]
    split
    · simp; omega
    · have := ih (v / 256) (by omega)
      rw [Nat.add_comm, Nat.pow_succ]
      omega

theorem digits256_min (fuel v k : Nat) (h : v < fuel) (hk : v < 256 ^ k) :
    digits256 fuel v ≤ k := by
  induction fuel generalizing v k with
  | zero => omega
  | succ f ih =>
    simp only [digits256]
    split
    · omega
    · cases k with
      | zero => simp at hk; omega
      | succ k' =>
        rw [Nat.pow_succ] at hk
        have := ih (v / 256) k' (by omega) (by omega)
        omega

theorem neededBytes_spec (v : Nat) : v < 256 ^ (neededBytes v) ∧ 1 ≤ neededBytes v := by
  refine ⟨?_, by simp [neededBytes]; omega⟩
  have h := digits256_spec (v + 1) v (by omega)
  have hle : digits256 (v + 1) v ≤ neededBytes v := by simp [neededBytes]; omega
  exact Nat.lt_of_lt_of_le h (Nat.pow_le_pow_right (by omega) hle)

theorem neededBytes_min (v : Nat) (k : Nat) (hk : 1 ≤ k) (h : v < 256 ^ k) :
    neededBytes v ≤ k := by
  have := digits256_min (v + 1) v k (by omega) h
  simp only [neededBytes]
  omega

theorem neededBytes_le_8 (v : Nat) (h : v < 2 ^ 64) : neededBytes v ≤ 8 :=
  neededBytes_min v 8 (by omega) h

theorem block_length (d : Bytes) : (block d).length = d.length + 4 := List.length_append

theorem checkBlock_block (d : Bytes) : checkBlock (block d) = true := by
  simp only [checkBlock, block, List.length_append, be32_length, Nat.add_sub_cancel,
    List.take_left', List.drop_left', be32Nat_be32 _ (UInt32.toNat_lt _), beq_self_eq_true]

theorem checkBlock_eq_block (full : Bytes) (n : Nat) (hl : full.length = n + 4)
    (h : checkBlock full = true) : full = block (full.take n) := by
  simp only [checkBlock, hl, Nat.add_sub_cancel, beq_iff_eq] at h
  rw [block, h, be32_be32Nat _ (by rw [List.length_drop, hl, Nat.add_sub_cancel_left]),
    List.take_append_drop]

/-! Lemmas that find a block in a file take the lengths as hypotheses (`hn : d.length = n`, `hoff : pre.length = off`).
Leaving `60 =?= h.encode.length` or `[] ++ f =?= f` to the unifier, or a `show`/`▸`/`rfl` step across `readBlock`,
`decode`, `encode` or `block`, makes it evaluate the CRC of symbolic bytes (tens of millions of heartbeats):
rewrite with `readBlock_eq`, `packCheckParts_eq`, `packCheck_eq` instead. -/

theorem readBlock_eq (f : Bytes) (off n : Nat) :
    readBlock f off n =
      if off + n + 4 ≤ f.length then
        if checkBlock (slice f off (n + 4)) then .ok ((slice f off (n + 4)).take n) else .err .corrupted
      else .err .format := rfl

theorem readBlock_ok_iff (f : Bytes) (off n : Nat) (b : Bytes) :
    readBlock f off n = .ok b ↔
      off + n + 4 ≤ f.length ∧ checkBlock (slice f off (n + 4)) = true ∧ b = (slice f off (n + 4)).take n := by
  rw [readBlock_eq]
  split
  · split <;> simp [*, eq_comm]
  · simp [*]

theorem readBlock_bounds {f X : Bytes} {p n : Nat} (h : readBlock f p n = .ok X) : p + n + 4 ≤ f.length :=
  ((readBlock_ok_iff ..).1 h).1

theorem readBlock_cases (f : Bytes) (off n : Nat) :
    (∃ b, readBlock f off n = .ok b) ∨ ∃ k, readBlock f off n = .err k := by
  rw [readBlock_eq]
  split
  · split
    · exact .inl ⟨_, rfl⟩
    · exact .inr ⟨_, rfl⟩
  · exact .inr ⟨_, rfl⟩

theorem readBlock_no_crash (f : Bytes) (off n : Nat) : (readBlock f off n).isValueOrError = true :=
  (isValueOrError_iff _).2 (readBlock_cases f off n)

theorem readBlock_congr {f g : Bytes} {off n : Nat} (hs : slice f off (n + 4) = slice g off (n + 4))
    (hl : off + n + 4 ≤ f.length ↔ off + n + 4 ≤ g.length) : readBlock f off n = readBlock g off n := by
  simp only [readBlock_eq, hs, hl]

theorem readBlock_of_slice {f d : Bytes} {off n : Nat} (hn : d.length = n)
    (hs : slice f off (n + 4) = block d) (hl : off + n + 4 ≤ f.length) : readBlock f off n = .ok d := by
  rw [readBlock_eq, if_pos hl, hs, checkBlock_block, if_pos rfl, block, ← hn, List.take_left']
  rfl

/-! The cursor `f.drop p = a ++ g` (Slice.lean) at a block; the `pre ++ (block d ++ post)` forms below are
`readBlock_of_drop (List.drop_left' _)`. -/

/-- the writers count a block as `pos + d.length + 4` -/
theorem drop_skip_block {f d g : Bytes} {p : Nat} (h : f.drop p = block d ++ g) :
    f.drop (p + d.length + 4) = g := by
  rw [Nat.add_assoc, ← block_length]; exact drop_skip h

theorem readBlock_of_drop {f d g : Bytes} {p n : Nat} (h : f.drop p = block d ++ g) (hn : d.length = n) :
    readBlock f p n = .ok d := by
  have hl := congrArg List.length h
  rw [List.length_drop, List.length_append, block_length, hn] at hl
  exact readBlock_of_slice hn (slice_of_drop h (by rw [block_length, hn])) (by omega)

theorem readBlock_block_at {pre d post : Bytes} {off n : Nat} (hoff : pre.length = off)
    (hn : d.length = n) : readBlock (pre ++ (block d ++ post)) off n = .ok d :=
  readBlock_of_drop (List.drop_left' hoff) hn

theorem readBlock_block_head {d post : Bytes} {n : Nat} (hn : d.length = n) :
    readBlock (block d ++ post) 0 n = .ok d :=
  readBlock_of_drop (p := 0) rfl hn

theorem readBlock_at {f : Bytes} (pre d post : Bytes) {off n : Nat} (hf : f = pre ++ (block d ++ post))
    (hoff : pre.length = off) (hn : d.length = n) : readBlock f off n = .ok d :=
  hf ▸ readBlock_block_at hoff hn

theorem PackKind.ofByte_byte (k : PackKind) : PackKind.ofByte k.byte = some k := by
  cases k <;> decide

/-! The header codecs round-trip by one recipe: unfold `decode` past its length test, let one `seg_simp` flatten
`encode` into a right-nested `++` and walk to each field, finish with the round trips of the field codecs. -/

theorem zeros_length (n : Nat) : (zeros n).length = n := List.length_replicate

/-- Walk to the literal offsets a header decoder reads at, through a `++` chain of segments of literal lengths
    nested to the right (pass `List.append_assoc` along with the encoder). -/
syntax "seg_simp" " [" Lean.Parser.Tactic.simpLemma,* "]" : tactic
macro_rules
  | `(tactic| seg_simp [$hs,*]) =>
    `(tactic| simp only [slice_skip, slice_here, slice_last, slice_cons_succ, getD_skip, List.getD_cons_succ,
      List.getD_cons_zero, zeros_length, leBytes_length, sizedOffsetEncode_length, Nat.reduceSub,
      Nat.reduceLeDiff, Nat.le_refl, $hs,*])

theorem PackHeader.WF_written (k : PackKind) (vendor uuid : Bytes) (size cip : Nat) (hv : vendor.length = 4)
    (hu : uuid.length = 16) (hs : size < 2 ^ 64) (hc : cip < 2 ^ 64) :
    (PackHeader.mk k vendor Consts.versionMajor Consts.versionMinor uuid 0 size cip).WF :=
  ⟨hv, hu, (by decide : Consts.versionMajor < 256), (by decide : Consts.versionMinor < 256),
    (by decide : 0 < 256), hs, hc⟩

/-- without `WF`: a writer needs the length of its file to show that the sizes in the header are in range -/
theorem PackHeader.encode_length' (h : PackHeader) (hv : h.vendor.length = 4) (hu : h.uuid.length = 16) :
    h.encode.length = 60 := by
  simp [PackHeader.encode, zeros_length, leBytes_length, Consts.headerPad1, Consts.headerPad2, hv, hu]

theorem PackHeader.encode_length (h : PackHeader) (hw : h.WF) : h.encode.length = 60 :=
  h.encode_length' hw.1 hw.2.1

theorem PackHeader.decode_encode (h : PackHeader) (hw : h.WF)
    (hv : h.major = Consts.versionGateMajor ∧ h.minor = Consts.versionGateMinor) :
    PackHeader.decode h.encode = .ok h := by
  have hlen : ¬ h.encode.length < 60 := by rw [PackHeader.encode_length h hw]; decide
  obtain ⟨hvl, hul, hmaj, hmin, hfl, hps, hcp⟩ := hw
  rw [PackHeader.decode, if_neg hlen]
  seg_simp [PackHeader.encode, Consts.headerPad1, Consts.headerPad2, List.append_assoc, List.cons_append,
    List.nil_append, List.take_succ_cons, List.take_zero, PackKind.ofByte_byte, ne_eq, not_true_eq_false, if_false,
    hvl, hul]
  rw [toNat_ofNat_u8, toNat_ofNat_u8, toNat_ofNat_u8, Nat.mod_eq_of_lt hmaj, Nat.mod_eq_of_lt hmin,
    Nat.mod_eq_of_lt hfl, leNat_leBytes_of_lt _ 8 hps, leNat_leBytes_of_lt _ 8 hcp, hv.1, hv.2,
    if_neg (not_not_intro rfl), ← hv.1, ← hv.2]

theorem PackHeader.decode_no_crash (bs : Bytes) : (PackHeader.decode bs).isValueOrError = true := by
  unfold PackHeader.decode
  split
  · rfl
  split
  · rfl
  split
  · rfl
  · simp only; split <;> rfl

/-- `106` is the `j` of the magic `jbk` -/
theorem PackHeader.decode_cons_ne_magic {b : UInt8} (hb : b ≠ 106) (xs : Bytes) :
    PackHeader.decode (b :: xs) = .err .format := by
  unfold PackHeader.decode
  split
  · rfl
  · rw [if_pos (by simp only [List.take_succ_cons, ne_eq, List.cons.injEq]; exact fun h => hb h.1)]

theorem PackInfo.encodeFixed_length (p : PackInfo) (hw : p.WF) : p.encodeFixed.length = 38 := by
  obtain ⟨hul, -⟩ := hw
  simp [PackInfo.encodeFixed, leBytes_length, sizedOffsetEncode_length, hul]

theorem encodeLocation_length (loc : Bytes) (h : loc.length ≤ Consts.locationPad) :
    (encodeLocation loc).length = 214 := by
  simp only [Consts.locationPad] at h
  simp [encodeLocation, zeros_length, Consts.locationPad]
  omega

theorem PackInfo.encode_length (p : PackInfo) (hw : p.WF) : p.encode.length = 252 := by
  have ⟨_, _, _, _, _, _, _, hloc⟩ := hw
  simp [PackInfo.encode, PackInfo.encodeFixed_length p hw, encodeLocation_length _ hloc]

theorem PackInfo.encode_block_length (p : PackInfo) (hw : p.WF) : (block p.encode).length = 256 := by
  rw [block_length, PackInfo.encode_length p hw]

theorem infoBlocks_length (infos : List PackInfo) (hw : ∀ p ∈ infos, p.WF) :
    (infos.flatMap fun p => block p.encode).length = infos.length * 256 :=
  flatten_fixed_length_mem infos _ 256 fun p hp => PackInfo.encode_block_length p (hw p hp)

theorem PackInfo.decode_encode (p : PackInfo) (hw : p.WF) : PackInfo.decode p.encode = .ok p := by
  have hlen : ¬ p.encode.length < 252 := by rw [PackInfo.encode_length p hw]; decide
  obtain ⟨hul, hps, hco, hcs, hpid, hgr, hfid, hloc⟩ := hw
  have hll : p.location.length % 256 = p.location.length := Nat.mod_eq_of_lt (by rw [Consts.locationPad] at hloc; omega)
  rw [PackInfo.decode, if_neg hlen]
  seg_simp [PackInfo.encode, PackInfo.encodeFixed, encodeLocation, List.append_assoc, List.cons_append,
    List.nil_append, hul, PackKind.ofByte_byte, toNat_ofNat_u8, hll, Nat.mod_eq_of_lt hgr]
  rw [if_neg (show ¬ p.location.length > Consts.locationSkip from Nat.not_lt.2 hloc),
    leNat_leBytes_of_lt _ 8 hps, leNat_leBytes_of_lt _ 2 hpid, leNat_leBytes_of_lt _ 2 hfid,
    sizedOffset_roundtrip _ _ hco hcs]

theorem CheckInfo.decode_encode (c : CheckInfo) (h : ∀ x, c = .blake3 x → x.length = 32) :
    CheckInfo.decode c.encode = .ok c := by
  cases c with
  | none => simp [CheckInfo.encode, CheckInfo.decode]
  | blake3 x =>
    have hx := h x rfl
    simp [CheckInfo.encode, CheckInfo.decode, hx, List.take_of_length_le (Nat.le_of_eq hx)]

theorem ManifestHeader.encode_length (m : ManifestHeader) (h4 : m.freeData.length = 24) :
    m.encode.length = 60 := by
  simp [ManifestHeader.encode, leBytes_length, sizedOffsetEncode_length, zeros_length, h4]

theorem ManifestHeader.decode_encode (m : ManifestHeader) (h1 : m.packCount < 2 ^ 16)
    (h2 : m.valueStore.1 < 2 ^ 48) (h3 : m.valueStore.2 < 2 ^ 16) (h4 : m.freeData.length = 24) :
    ManifestHeader.decode m.encode = .ok m := by
  have hlen : ¬ m.encode.length < 60 := by rw [ManifestHeader.encode_length m h4]; decide
  rw [ManifestHeader.decode, if_neg hlen]
  seg_simp [ManifestHeader.encode, List.append_assoc, h4]
  rw [leNat_leBytes_of_lt _ 2 h1, sizedOffset_roundtrip _ _ h2 h3]

theorem packCheckParts_eq (f : Bytes) :
    packCheckParts f = (readBlock f 0 60).bind fun hd => (PackHeader.decode hd).bind fun h =>
      match h.checkInfoSize with
      | none => .panic "check_info_size underflow"
      | some n => (readBlock f h.checkInfoPos n).bind fun cb =>
          (CheckInfo.decode cb).bind fun ci => .ok (h.checkInfoPos, ci) := rfl

theorem packCheck_eq (H mask : Bytes → Bytes) (f : Bytes) :
    packCheck H mask f = (packCheckParts f).bind fun p =>
      match p.2 with
      | .none => .ok true
      | .blake3 stored => if p.1 ≤ f.length then .ok (H (mask (f.take p.1)) == stored) else .err .format :=
  rfl

theorem packCheckParts_of_blocks {f : Bytes} {h : PackHeader} {n : Nat} {hd cb : Bytes} {ci : CheckInfo}
    (hrd : readBlock f 0 60 = .ok hd) (hdec : PackHeader.decode hd = .ok h)
    (hsize : h.checkInfoSize = some n)
    (hrc : readBlock f h.checkInfoPos n = .ok cb) (hci : CheckInfo.decode cb = .ok ci) :
    packCheckParts f = .ok (h.checkInfoPos, ci) := by
  simp only [packCheckParts_eq, hrd, Outcome.bind, hdec, hsize, hrc, hci]

theorem packCheck_of_parts {H mask : Bytes → Bytes} {f : Bytes} {cip : Nat} {stored : Bytes}
    (hp : packCheckParts f = .ok (cip, .blake3 stored)) (hl : cip ≤ f.length) :
    packCheck H mask f = .ok (H (mask (f.take cip)) == stored) := by
  simp only [packCheck_eq, hp, Outcome.bind, hl, if_true]

theorem packCheck_congr {H mask mask' : Bytes → Bytes} {f g : Bytes}
    (hp : packCheckParts f = packCheckParts g)
    (hm : ∀ cip, mask (f.take cip) = mask' (g.take cip)) (hl : f.length = g.length) :
    packCheck H mask f = packCheck H mask' g := by
  simp only [packCheck_eq, hp, hm, hl]

end Jubako
