/-
Ties of the tails the readers parse (`reader/content_pack/cluster.rs`, `reader/directory_pack/value_store.rs`,
`entry_store.rs`) to the Rust bodies translated from the source on every run (Generated/FuncsOpen.lean).
-/
import JubakoModel.Lemmas.FuncsOpen
import JubakoModel.Model.DirLayout
import JubakoModel.Lemmas.OutcomeLemmas
import JubakoModel.Lemmas.RawPropDecode
import JubakoModel.Lemmas.SrcByteSize
namespace Jubako

theorem clusterLoop_eq_vsLoop (h : Nat × Nat × Nat) (data : Nat) (first : Bool) : ∀ (n : Nat) (bs : Bytes) (offs : List Nat),
    Generated.clusterBuilderParse_loop h data bs first offs n = Generated.valueStoreBuilderParse_loop h.2.1 data bs first offs n := by
  intro n
  induction n generalizing first with
  | zero => intros; rfl
  | succ n ih =>
    intro bs offs
    unfold Generated.clusterBuilderParse_loop Generated.valueStoreBuilderParse_loop
    simp only [ih]

/-- The offsets loop of the source after its first turn, against the loop `go` of either reader model, given by its
    two equations as in `offsets_go_spec` (the two models differ in `base` and in the text of the panic). `pre` is
    what the source has pushed before the loop reads anything: `[0]` at both call sites. -/
theorem offsets_loop (bs : Bytes) (osz data base : Nat) (msg : String) (hosz : 1 ≤ osz)
    (go : Nat → Nat → List Nat → Outcome (List Nat)) (go_zero : ∀ i acc, go i 0 acc = .ok acc.reverse)
    (go_succ : ∀ i n acc, go i (n + 1) acc =
      (readUN bs (base + i * osz) osz).bind fun v => if v ≤ data then go (i + 1) n (v :: acc) else .panic msg)
    (n : Nat) : ∀ (i : Nat) (acc pre : List Nat),
      ((Generated.valueStoreBuilderParse_loop osz data (bs.drop (base + i * osz)) false (pre ++ acc.reverse) n).map'
          (fun r => r.1.2)).Same
        ((go i n acc).map' (fun offs => pre ++ offs)) := by
  induction n with
  | zero => intro i acc pre; rw [go_zero]; exact .rfl
  | succ n ih =>
    intro i acc pre
    unfold Generated.valueStoreBuilderParse_loop
    rw [go_succ, if_neg Bool.false_ne_true, takeLE_pos bs _ osz hosz, Outcome.bind_assoc', Outcome.map'_bind, Outcome.map'_bind]
    refine .bind .rfl fun v => ?_
    simp only [Outcome.bind_ok, Generated.offsetIsValid, decide_eq_true_eq]
    split
    · have := ih (i + 1) (v :: acc) pre
      rwa [Nat.add_mul, Nat.one_mul, ← Nat.add_assoc, List.reverse_cons, ← List.append_assoc] at this
    · exact Outcome.Same.panic _ _

/-! The source parses the cluster header (4 bytes) with `ClusterHeader::parse` and hands it as a value to
`ClusterBuilder::parse`; the model's `ClusterTail.decode` does both. It is cut here in the same place:
`clusterHeaderModel`, then `clusterRest`. -/

def srcCompressionToNat : Generated.SrcCompression → Nat
  | .none => 0
  | .lz4 => 1
  | .lzma => 2
  | .zstd => 3

def clusterHeaderModel (bs : Bytes) : Outcome ((Nat × Nat × Nat) × Bytes) :=
  if bs.length < 4 then .err .format else
  if (bs.getD 0 0).toNat > 3 then .err .format else
  if (bs.getD 1 0).toNat = 0 ∨ (bs.getD 1 0).toNat > 8 then .err .format else
  .ok (((bs.getD 0 0).toNat, (bs.getD 1 0).toNat, leNat (slice bs 2 2)), bs.drop 4)

def clusterRest (bs : Bytes) (hdr : Nat × Nat × Nat) : Outcome ClusterTail :=
  (readUN bs 4 hdr.2.1).bind fun raw => (readUN bs (4 + hdr.2.1) hdr.2.1).bind fun data =>
    (ClusterTail.decode.go bs hdr.2.1 data 0 (hdr.2.2 - 1) []).bind fun offs =>
      if hdr.1 = 0 ∧ raw ≠ data then .err .format
      else .ok { comp := hdr.1, offsetSize := hdr.2.1, blobCount := hdr.2.2, rawSize := raw, dataSize := data, offsets := offs }

theorem ClusterTail.decode_eq (bs : Bytes) :
    ClusterTail.decode bs = (clusterHeaderModel bs).bind fun h => clusterRest bs h.1 := by
  unfold ClusterTail.decode clusterHeaderModel
  split
  · rfl
  · dsimp only; split
    · rfl
    · split <;> rfl

theorem clusterHeaderModel_eq_ok {bs : Bytes} {h : Nat × Nat × Nat} {rest : Bytes}
    (e : clusterHeaderModel bs = .ok (h, rest)) : 1 ≤ h.2.1 ∧ h.2.2 = leNat (slice bs 2 2) ∧ rest = bs.drop 4 := by
  unfold clusterHeaderModel at e
  split at e
  · cases e
  · split at e
    · cases e
    · split at e
      · cases e
      · obtain ⟨rfl, rfl⟩ := Prod.mk.inj (Outcome.ok.inj e)
        refine ⟨?_, rfl, rfl⟩
        show 1 ≤ (bs.getD 1 0).toNat
        omega

def compressionOfNat : Nat → Generated.SrcCompression
  | 0 => .none
  | 1 => .lz4
  | 2 => .lzma
  | _ => .zstd

theorem compressionTypeParse_cons (a : UInt8) (rest : Bytes) :
    Generated.compressionTypeParse (a :: rest) =
      if a.toNat > 3 then .err .format else .ok (compressionOfNat a.toNat, rest) := by
  unfold Generated.compressionTypeParse
  simp only [takeLE_one, Outcome.bind_ok]
  generalize a.toNat = v
  by_cases hv : v > 3
  · obtain ⟨n, rfl⟩ : ∃ n, v = n + 4 := ⟨v - 4, by omega⟩
    rw [if_pos hv]
    rfl
  · have : v = 0 ∨ v = 1 ∨ v = 2 ∨ v = 3 := by omega
    rcases this with h | h | h | h <;> subst h <;> rfl

theorem compressionOfNat_toNat (v : Nat) (h : ¬ v > 3) : srcCompressionToNat (compressionOfNat v) = v := by
  have : v = 0 ∨ v = 1 ∨ v = 2 ∨ v = 3 := by omega
  rcases this with h | h | h | h <;> subst h <;> rfl

/-- **The cluster header is parsed as the source parses it**: `ClusterHeader::parse` and `CompressionType::parse`,
    translated on every run — compression byte (0..3, anything else a format error), offset width (a `ByteSize`,
    1..8), blob count on two bytes — answer on every byte string what the model's `ClusterTail.decode` computes from
    the first four bytes of a tail. -/
theorem gen_clusterHeaderParse (bs : Bytes) :
    (Generated.clusterHeaderParse bs).map' (fun r => ((srcCompressionToNat r.1.1, r.1.2.1, r.1.2.2), r.2)) =
      clusterHeaderModel bs := by
  unfold Generated.clusterHeaderParse clusterHeaderModel
  match bs with
  | [] => rfl
  | a :: rest =>
    rw [compressionTypeParse_cons]
    by_cases ha : a.toNat > 3
    · simp only [ha, if_true, Outcome.bind_err, Outcome.map'_err, List.getD_cons_zero]
      split <;> rfl
    · simp only [ha, if_false, Outcome.bind_ok, List.getD_cons_zero]
      match rest with
      | [] => simp [takeLE, Outcome.map']
      | b :: rest2 =>
        simp only [takeLE_one, Outcome.bind_ok, byteSizeTryFrom_eq, List.getD_cons_succ, List.getD_cons_zero]
        by_cases hb : b.toNat = 0 ∨ b.toNat > 8
        · simp only [hb, if_true, Outcome.bind_err, Outcome.map'_err]
          split <;> rfl
        · simp only [hb, if_false, Outcome.bind_ok]
          by_cases hl : 2 ≤ rest2.length
          · have T := takeLE_at (a :: b :: rest2) 2 2 (by simp only [List.length_cons]; omega)
            simp only [List.drop_succ_cons, List.drop_zero] at T
            have hlen : ¬ (a :: b :: rest2).length < 4 := by simp only [List.length_cons]; omega
            simp only [T, Outcome.bind_ok, Outcome.map'_ok, hlen, if_false, compressionOfNat_toNat _ ha]
            rfl
          · have hlen : (a :: b :: rest2).length < 4 := by simp only [List.length_cons]; omega
            have T : takeLE rest2 2 = .err .format := by unfold takeLE; rw [if_neg hl]
            simp only [T, Outcome.bind_err, Outcome.map'_err, hlen, if_true]

/-- What the two ties below share. `gen_clusterBuilderParse` takes the header conditions as hypotheses (the negated
    tests of the decoder); `gen_clusterTailParse` takes none and gets them from `gen_clusterHeaderParse`. -/
theorem clusterBuilderParse_rest (bs : Bytes) (comp osz c : Nat) (ho : 1 ≤ osz) :
    ((Generated.clusterBuilderParse (bs.drop 4) (comp, osz, c + 1)).map'
        (fun r => (r.1.1.1, r.1.1.2.1, r.1.1.2.2, r.1.2))).Same
      ((clusterRest bs (comp, osz, c + 1)).map' (fun t => (0 :: t.offsets ++ [t.dataSize], t.dataSize, t.comp, t.rawSize))) := by
  unfold clusterRest Generated.clusterBuilderParse
  simp only [Outcome.bind_ok, Nat.add_sub_cancel]
  simp only [takeLE_pos bs _ osz ho, Outcome.bind_assoc', Outcome.map'_bind, Outcome.bind_ok]
  refine .bind (Outcome.Same.rfl) fun raw => .bind (Outcome.Same.rfl) fun data => ?_
  -- the first turn of the loop writes 0 without reading
  unfold Generated.clusterBuilderParse_loop
  simp only [if_true, Generated.offsetIsValid, Nat.zero_le, decide_true, List.nil_append, clusterLoop_eq_vsLoop]
  have L := offsets_loop bs osz data (4 + 2 * osz) _ ho (ClusterTail.decode.go bs osz data) (fun _ _ => rfl)
    (fun _ _ _ => rfl) c 0 [] [0]
  rw [Nat.zero_mul, Nat.add_zero] at L
  rw [Nat.add_assoc, ← Nat.two_mul]
  refine .bind_of_map' L fun x offs hx => ?_
  simp only [List.singleton_append] at hx
  split
  · exact .rfl
  · simp only [Outcome.map'_ok, hx, Outcome.Same.rfl]

/-- **The tail of a cluster is parsed as the source parses it**: `ClusterBuilder::parse` (after the three header
    bytes), translated on every run — stored size, data size, then the offsets loop: the first blob starts at 0
    without a read, every further offset is read in the header's width and must not exceed the data size (a
    panic otherwise), the data size closes the list; an uncompressed cluster whose two sizes differ is a format
    error — is `ClusterTail.decode` of the model on every tail whose header passes the model's checks and
    announces at least one blob. -/
theorem gen_clusterBuilderParse (bs : Bytes) (c : Nat)
    (h4 : ¬ bs.length < 4) (hcomp : ¬ (bs.getD 0 0).toNat > 3)
    (hosz : ¬ ((bs.getD 1 0).toNat = 0 ∨ (bs.getD 1 0).toNat > 8)) (hcount : leNat (slice bs 2 2) = c + 1) :
    ((Generated.clusterBuilderParse (bs.drop 4) ((bs.getD 0 0).toNat, (bs.getD 1 0).toNat, c + 1)).map'
        (fun r => (r.1.1.1, r.1.1.2.1, r.1.1.2.2, r.1.2))).Same
      ((ClusterTail.decode bs).map' (fun t => (0 :: t.offsets ++ [t.dataSize], t.dataSize, t.comp, t.rawSize))) := by
  have ho : 1 ≤ (bs.getD 1 0).toNat := by omega
  rw [ClusterTail.decode_eq, clusterHeaderModel, if_neg h4, if_neg hcomp, if_neg hosz, Outcome.bind_ok, hcount]
  exact clusterBuilderParse_rest bs _ _ c ho

/-- **The whole cluster tail is parsed as the source parses it**: `ClusterHeader::parse` followed by the rest of
    `ClusterBuilder::parse` (which receives the header as a value), both translated on every run, is
    `ClusterTail.decode` of the model on every tail announcing at least one blob. -/
theorem gen_clusterTailParse (bs : Bytes) (c : Nat) (hcount : leNat (slice bs 2 2) = c + 1) :
    (((Generated.clusterHeaderParse bs).bind fun r =>
        Generated.clusterBuilderParse r.2 (srcCompressionToNat r.1.1, r.1.2.1, r.1.2.2)).map'
        (fun r => (r.1.1.1, r.1.1.2.1, r.1.1.2.2, r.1.2))).Same
      ((ClusterTail.decode bs).map' (fun t => (0 :: t.offsets ++ [t.dataSize], t.dataSize, t.comp, t.rawSize))) := by
  rw [ClusterTail.decode_eq, ← gen_clusterHeaderParse bs, Outcome.bind_map', Outcome.map'_bind, Outcome.map'_bind]
  refine Outcome.Same.bind_right fun r hr => ?_
  have e := gen_clusterHeaderParse bs
  rw [hr, Outcome.map'_ok] at e
  obtain ⟨ho, hc, hrest⟩ := clusterHeaderModel_eq_ok e.symm
  simp only [] at ho hc hrest
  rw [hrest, hc, hcount]
  exact clusterBuilderParse_rest bs _ _ c ho

def vsTailToSrc (t : ValueStoreTail) : Option (List Nat) × Nat :=
  (if t.indexed then some t.offsets else none, t.dataSize)

/-- **The tail of a value store is parsed as the source parses it**: `ValueStoreBuilder::parse` (with
    `ValueStoreKind::parse`), translated on every run — kind byte; plain: the data size; indexed: the value count,
    the offset width (a `ByteSize`, 1..8), the data size, then the offsets loop (first offset 0 without a read,
    every other one read in that width and bounded by the data size — a panic otherwise —, the data size last)
    — is `valueStoreTailDecode` of the model on every byte string. -/
theorem gen_valueStoreBuilderParse (bs : Bytes) :
    ((Generated.valueStoreBuilderParse bs).map' (fun r => r.1)).Same ((valueStoreTailDecode bs).map' vsTailToSrc) := by
  cases bs with
  | nil => exact .rfl
  | cons k rest =>
    unfold Generated.valueStoreBuilderParse Generated.valueStoreKindParse valueStoreTailDecode
    -- the model compares the kind byte, the source its value
    simp only [takeLE_one, Outcome.bind_ok, Bind.bind, ← UInt8.toNat_inj, UInt8.reduceToNat]
    -- the source reads `rest` sequentially, the model the whole tail `k :: rest` by position: name the tail `b` and
    -- see `rest` as `b.drop 1`, so that the reads are `takeLE (b.drop o) n` (`takeLE_pos`)
    have hrest : rest = (k :: rest).drop 1 := rfl
    generalize k :: rest = b at hrest ⊢
    subst hrest
    generalize k.toNat = n
    split
    · simp only [Outcome.bind_ok, if_true, takeLE_pos b 1 8 (by decide), Outcome.bind_assoc', Outcome.map'_bind]
      exact .rfl
    · simp only [Outcome.bind_ok, Nat.reduceEqDiff, if_false, if_true, takeLE_pos b 1 8 (by decide),
        takeLE_pos b 9 1 (by decide), Outcome.bind_assoc', Outcome.map'_bind, byteSizeTryFrom_eq]
      refine .bind .rfl fun count => .bind .rfl fun osz => ?_
      by_cases hz : osz = 0 ∨ osz > 8
      · simp only [hz, if_true, Outcome.bind_err, Outcome.map'_err]; exact .rfl
      have ho : 1 ≤ osz := by omega
      simp only [hz, if_false, Outcome.bind_ok, takeLE_pos b 10 osz ho, Outcome.bind_assoc', Outcome.map'_bind]
      refine .bind .rfl fun ds => ?_
      cases count with
      | zero => exact .rfl
      | succ c =>
        unfold Generated.valueStoreBuilderParse_loop
        have L := offsets_loop b osz ds (10 + osz) _ ho (valueStoreTailDecode.go b osz ds) (fun _ _ => rfl)
          (fun _ _ _ => rfl) c 0 [] [0]
        rw [Nat.zero_mul, Nat.add_zero] at L
        simp only [if_true, Generated.offsetIsValid, Nat.zero_le, decide_true, List.nil_append, Nat.add_sub_cancel,
          Nat.succ_ne_zero, if_false]
        refine .bind_of_map' L fun x offs hx => ?_
        simp only [List.singleton_append] at hx
        simp only [Outcome.map'_ok, vsTailToSrc, hx, if_true, List.cons_append, Outcome.Same.rfl]
    · simp_all

/-- what `entryStoreOpen` does with the tail block; kinds 1 and 2 are the `todo!()` of the source -/
def modelEntryTail (tb : Bytes) : Outcome Layout :=
  match tb with
  | [] => .err .format
  | k :: rest =>
    if k = 1 ∨ k = 2 then .panic "entry_store.rs: todo!() (store kind)"
    else if k ≠ 0 then .err .format
    else Layout.decode rest

theorem entryStoreOpen_tail (f : Bytes) (so : Nat × Nat) :
    entryStoreOpen f so =
      (readBlock f so.1 so.2).bind fun tb => (modelEntryTail tb).bind fun l =>
        if l.checked then
          let ds := l.entryCount * (l.entrySize + 4)
          if so.1 < ds then .panic "offset.rs: subtraction underflow"
          else if so.1 ≤ f.length then .ok (l, slice f (so.1 - ds) ds) else .err .format
        else
          let ds := l.entryCount * l.entrySize
          if so.1 < ds + 4 then .panic "offset.rs: subtraction underflow"
          else (readBlock f (so.1 - ds - 4) ds).bind fun d => .ok (l, d) := by
  unfold entryStoreOpen modelEntryTail
  simp only [bind]
  refine Outcome.bind_congr fun tb _ => ?_
  cases tb with
  | nil => rfl
  | cons k rest =>
    simp only []
    by_cases h12 : k = 1 ∨ k = 2
    · simp [h12]
    · by_cases h0 : k ≠ 0 <;> simp [h12, h0]

/-- **The tail of an entry store is read as the source reads it**: `EntryStoreBuilder::parse` (with
    `StoreKind::parse`) translated on every run — store kind 0 then the layout, kinds 1 and 2 the `todo!()` of
    the source (a panic), any other kind a format error — is what the model's `entryStoreOpen` does with the
    tail block, for every layout parser. -/
theorem gen_entryStoreBuilderParse (tb : Bytes) :
    ((Generated.entryStoreBuilderParse tb (fun bs => (Layout.decode bs).map' (fun l => (l, ([] : Bytes))))).map' (·.1)).Same
      (modelEntryTail tb) := by
  cases tb with
  | nil => exact .rfl
  | cons k rest =>
    unfold Generated.entryStoreBuilderParse Generated.storeKindParse modelEntryTail
    simp only [takeLE_one, Outcome.bind_ok, ne_eq, ← UInt8.toNat_inj, UInt8.reduceToNat]
    generalize k.toNat = n
    split
    · simp only [Outcome.bind_ok, Nat.reduceEqDiff, or_self, not_true_eq_false, if_false]
      cases Layout.decode rest <;> first | exact .rfl | exact Outcome.Same.panic _ _
    · exact Outcome.Same.panic _ _
    · exact Outcome.Same.panic _ _
    · simp_all

end Jubako
