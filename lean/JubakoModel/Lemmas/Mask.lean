/- The manifest check mask (`maskedPos`, `maskFrom`, `manifestMask`) and the streaming reader that delivers it
   (`checkStreamRead`, `checkStreamDrain`). -/
import JubakoModel.Model.Pack
import JubakoModel.Lemmas.Slice

namespace Jubako

theorem packInfoBlockSize_eq : packInfoBlockSize = 256 := by decide

theorem packInfoToCheck_eq : Consts.packInfoToCheck = 38 := rfl

theorem maskFrom_getElem? (po n p : Nat) (bs : Bytes) (i : Nat) :
    (maskFrom po n p bs)[i]? = bs[i]?.map (fun b => if maskedPos po n (p + i) then 0 else b) := by
  simp only [maskFrom, List.getElem?_map, List.getElem?_zipIdx, Option.map_map]
  rfl

theorem maskFrom_length (po n p : Nat) (bs : Bytes) : (maskFrom po n p bs).length = bs.length := by
  simp only [maskFrom, List.length_map, List.length_zipIdx]

theorem maskFrom_append (po n p : Nat) (a b : Bytes) :
    maskFrom po n p (a ++ b) = maskFrom po n p a ++ maskFrom po n (p + a.length) b := by
  simp only [maskFrom, List.zipIdx_append, List.map_append]

theorem maskFrom_take (po n p : Nat) (bs : Bytes) (c : Nat) :
    maskFrom po n p (bs.take c) = (maskFrom po n p bs).take c := by
  apply List.ext_getElem?
  intro i
  rw [maskFrom_getElem?, List.getElem?_take, List.getElem?_take, maskFrom_getElem?]
  by_cases hi : i < c <;> simp only [hi, if_true, if_false, Option.map_none]

theorem manifestMask_take (po n : Nat) (bs : Bytes) (c : Nat) :
    manifestMask po n (bs.take c) = (manifestMask po n bs).take c := maskFrom_take po n 0 bs c

theorem maskFrom_eq_iff (po n p : Nat) (a b : Bytes) :
    maskFrom po n p a = maskFrom po n p b ↔
      a.length = b.length ∧ ∀ i, maskedPos po n (p + i) = false → a[i]? = b[i]? := by
  constructor
  · intro h
    refine ⟨by rw [← maskFrom_length po n p a, h, maskFrom_length], fun i hi => ?_⟩
    have := congrArg (·[i]?) h
    simpa only [maskFrom_getElem?, hi, Bool.false_eq_true, if_false, Option.map_id'] using this
  · rintro ⟨hl, h⟩
    apply List.ext_getElem?
    intro i
    rw [maskFrom_getElem?, maskFrom_getElem?]
    cases hm : maskedPos po n (p + i)
    · rw [h i hm]
    · by_cases hi : i < a.length
      · rw [List.getElem?_eq_getElem hi, List.getElem?_eq_getElem (hl ▸ hi)]; rfl
      · rw [List.getElem?_eq_none (Nat.le_of_not_lt hi), List.getElem?_eq_none (hl ▸ Nat.le_of_not_lt hi)]

theorem maskFrom_unmasked (po n p : Nat) (bs : Bytes)
    (h : ∀ i, i < bs.length → maskedPos po n (p + i) = false) : maskFrom po n p bs = bs := by
  apply List.ext_getElem?
  intro i
  rw [maskFrom_getElem?]
  by_cases hi : i < bs.length
  · simp only [h i hi, Bool.false_eq_true, if_false, Option.map_id']
  · rw [List.getElem?_eq_none (Nat.le_of_not_lt hi)]; rfl

theorem maskFrom_masked (po n p : Nat) (bs : Bytes)
    (h : ∀ i, i < bs.length → maskedPos po n (p + i) = true) :
    maskFrom po n p bs = zeros bs.length := by
  apply List.ext_getElem?
  intro i
  rw [maskFrom_getElem?, zeros, List.getElem?_replicate]
  by_cases hi : i < bs.length
  · simp only [h i hi, if_true, hi, List.getElem?_eq_getElem hi, Option.map_some]
  · rw [List.getElem?_eq_none (Nat.le_of_not_lt hi), if_neg hi]; rfl

/-! The arithmetic of exempt positions is done for a block size `B` and a number `C` of checked bytes that are
variables: `omega` then sees `k * B` as an atom and never has to divide by 256. -/

theorem in_block_iff (B C x n : Nat) :
    (x < n * B ∧ C ≤ x % B) ↔ ∃ k, k < n ∧ k * B + C ≤ x ∧ x < k * B + B := by
  constructor
  · rintro ⟨h1, h2⟩
    have hB : 0 < B := Nat.pos_of_ne_zero (by rintro rfl; simp at h1)
    have h3 := Nat.div_add_mod x B
    have h4 := Nat.mod_lt x hB
    rw [Nat.mul_comm] at h3
    exact ⟨x / B, (Nat.div_lt_iff_lt_mul hB).2 h1, by omega, by omega⟩
  · rintro ⟨k, hk, h1, h2⟩
    have hd : x / B = k := Nat.div_eq_of_lt_le (by omega) (by rw [Nat.succ_mul]; exact h2)
    have h3 := Nat.div_add_mod x B
    rw [hd, Nat.mul_comm] at h3
    have := Nat.mul_le_mul_right B (Nat.succ_le_of_lt hk)
    rw [Nat.succ_mul] at this
    exact ⟨by omega, by omega⟩

theorem add_in_block (x i n B : Nat) (hx : x < n * B) (hi : x % B + i < B) :
    x + i < n * B ∧ (x + i) % B = x % B + i := by
  have hB : 0 < B := by omega
  constructor
  · have h1 : (x / B + 1) * B ≤ n * B :=
      Nat.mul_le_mul_right B ((Nat.div_lt_iff_lt_mul hB).2 hx)
    have h2 := Nat.div_add_mod x B
    rw [Nat.add_mul, Nat.one_mul, Nat.mul_comm] at h1
    omega
  · rw [Nat.add_mod, Nat.mod_eq_of_lt (a := i) (by omega), Nat.mod_eq_of_lt hi]

theorem slot_end_le (po B : Nat) {k n : Nat} (hk : k < n) : po + k * B + B ≤ po + n * B := by
  have := Nat.mul_le_mul_right B (Nat.succ_le_of_lt hk); rw [Nat.succ_mul] at this; omega

theorem slots_disjoint (po B : Nat) {j k : Nat} (h : j ≠ k) :
    po + j * B + B ≤ po + k * B ∨ po + k * B + B ≤ po + j * B := by
  rcases Nat.lt_or_gt_of_ne h with h | h
  · exact .inl (by have := slot_end_le 0 B h; omega)
  · exact .inr (by have := slot_end_le 0 B h; omega)

/-- in literals, unlike its neighbours: the form `c04_exempt_exactly` states and `rewrite_one` hands to `omega` -/
theorem maskedPos_iff (po n p : Nat) :
    maskedPos po n p = true ↔ ∃ k, k < n ∧ po + k * 256 + 38 ≤ p ∧ p < po + (k + 1) * 256 := by
  show _ ↔ ∃ k, k < n ∧ po + k * packInfoBlockSize + Consts.packInfoToCheck ≤ p ∧
    p < po + (k + 1) * packInfoBlockSize
  simp only [maskedPos, Bool.and_eq_true, decide_eq_true_eq, and_assoc, Nat.succ_mul]
  constructor
  · rintro ⟨h1, h2, h3⟩
    obtain ⟨k, hk, h4, h5⟩ :=
      (in_block_iff packInfoBlockSize Consts.packInfoToCheck (p - po) n).1 ⟨by omega, h3⟩
    exact ⟨k, hk, by omega, by omega⟩
  · rintro ⟨k, hk, h1, h2⟩
    have := (in_block_iff packInfoBlockSize Consts.packInfoToCheck (p - po) n).2 ⟨k, hk, by omega, by omega⟩
    exact ⟨by omega, by omega, this.2⟩

theorem maskedPos_before {po n p : Nat} (h : p < po) : maskedPos po n p = false := by
  simp only [maskedPos, Nat.not_le.2 h, decide_false, Bool.false_and]

theorem maskedPos_after {po n p : Nat} (h : po + n * packInfoBlockSize ≤ p) : maskedPos po n p = false := by
  simp only [maskedPos, Nat.not_lt.2 h, decide_false, Bool.false_and, Bool.and_false]

theorem maskedPos_in_block {po n pos i : Nat} (h1 : po ≤ pos) (h2 : pos < po + n * packInfoBlockSize)
    (hi : (pos - po) % packInfoBlockSize + i < packInfoBlockSize) :
    maskedPos po n (pos + i) = decide (Consts.packInfoToCheck ≤ (pos - po) % packInfoBlockSize + i) := by
  obtain ⟨h3, h4⟩ := add_in_block (pos - po) i n packInfoBlockSize (by omega) hi
  have h5 : pos + i - po = pos - po + i := by omega
  simp only [maskedPos, h5, h4, show po ≤ pos + i by omega, show pos + i < po + n * packInfoBlockSize by omega,
    decide_true, Bool.true_and]

/-- with no pack info there is no exempt byte: the mask of content and directory packs is the identity -/
theorem manifestMask_zero_blocks (po : Nat) (bs : Bytes) : manifestMask po 0 bs = bs :=
  maskFrom_unmasked po 0 0 bs fun i _ =>
    (Nat.lt_or_ge (0 + i) po).elim maskedPos_before fun h => maskedPos_after (by rwa [Nat.zero_mul])

theorem lt_of_lt_length_take {bs : Bytes} {i k : Nat} (h : i < (bs.take k).length) : i < k :=
  Nat.lt_of_lt_of_le h (List.length_take_le ..)

/-- each of the four branches of `checkStreamRead` stays before the pack infos, after them, within the checked
    bytes of one pack info, or within its exempt bytes -/
theorem checkStreamRead_spec (po n pos : Nat) (src : Bytes) (req : Nat) :
    ∃ k, k ≤ req ∧ k ≤ src.length ∧ (0 < req → src ≠ [] → 0 < k) ∧
      checkStreamRead po n pos src req = (maskFrom po n pos (src.take k), src.drop k) := by
  -- `k'` is what the source is asked for; it gives `min k' src.length`
  suffices h : ∃ k', k' ≤ req ∧ (0 < req → 0 < k') ∧
      checkStreamRead po n pos src req = (maskFrom po n pos (src.take k'), src.drop k') by
    obtain ⟨k', h1, h2, e⟩ := h
    refine ⟨min k' src.length, by omega, Nat.min_le_right .., fun hr hs => ?_, ?_⟩
    · exact Nat.lt_min.2 ⟨h2 hr, List.length_pos_iff.mpr hs⟩
    · rw [e, ← List.take_eq_take_min, ← List.drop_eq_drop_min]
  have hC : Consts.packInfoToCheck ≤ packInfoBlockSize := by decide
  have hmod := Nat.mod_lt (pos - po) (show 0 < packInfoBlockSize by decide)
  unfold checkStreamRead
  simp only
  split
  · refine ⟨min req (po - pos), Nat.min_le_left .., by omega, ?_⟩
    rw [maskFrom_unmasked]
    exact fun i hi => maskedPos_before (by have := lt_of_lt_length_take hi; omega)
  split
  · refine ⟨req, Nat.le_refl _, id, ?_⟩
    rw [maskFrom_unmasked]
    exact fun i _ => maskedPos_after (by omega)
  split
  · refine ⟨min req (Consts.packInfoToCheck - (pos - po) % packInfoBlockSize), Nat.min_le_left .., by omega, ?_⟩
    rw [maskFrom_unmasked]
    intro i hi
    have := lt_of_lt_length_take hi
    rw [maskedPos_in_block (by omega) (by omega) (by omega), decide_eq_false_iff_not]
    omega
  · refine ⟨min req (packInfoBlockSize - (pos - po) % packInfoBlockSize), Nat.min_le_left .., by omega, ?_⟩
    rw [maskFrom_masked]
    intro i hi
    have := lt_of_lt_length_take hi
    rw [maskedPos_in_block (by omega) (by omega) (by omega), decide_eq_true_eq]
    omega

theorem checkStreamDrain_spec (po n pos : Nat) (src : Bytes) (reqs : List Nat) :
    checkStreamDrain po n pos src reqs =
      maskFrom po n pos (src.take (checkStreamDrain po n pos src reqs).length) := by
  induction reqs generalizing pos src with
  | nil => rfl
  | cons req rest ih =>
    obtain ⟨k, -, hk, -, e⟩ := checkStreamRead_spec po n pos src req
    have hl : (maskFrom po n pos (src.take k)).length = k := by
      rw [maskFrom_length, List.length_take, Nat.min_eq_left hk]
    rw [checkStreamDrain, e]
    simp only [hl, List.length_append]
    rw [List.take_add, maskFrom_append, List.length_take, Nat.min_eq_left hk, ← ih]

theorem checkStreamDrain_length_le (po n pos : Nat) (src : Bytes) (reqs : List Nat) :
    (checkStreamDrain po n pos src reqs).length ≤ src.length := by
  have h2 := congrArg List.length (checkStreamDrain_spec po n pos src reqs)
  rw [maskFrom_length, List.length_take] at h2
  omega

end Jubako
