/-
Runs of a transition system whose step function may refuse an action (`none`): `SV.run`, `Pipe.run codec`
and `discRun isTemp entry old` are all the function characterised by `IsRun` below, and what
holds of every such run is proved here once.
-/
namespace Jubako

/-- for the runs of the model both equations hold by `rfl` -/
structure IsRun {σ α : Type} (step : σ → α → Option σ) (run : σ → List α → Option σ) : Prop where
  nil : ∀ s, run s [] = some s
  cons : ∀ s a as, run s (a :: as) = (step s a).bind (fun s' => run s' as)

namespace IsRun

variable {σ α : Type} {step : σ → α → Option σ} {run : σ → List α → Option σ}

theorem cons_eq_some (R : IsRun step run) {s s' : σ} {a : α} {as : List α} :
    run s (a :: as) = some s' ↔ ∃ s1, step s a = some s1 ∧ run s1 as = some s' := by
  rw [R.cons, Option.bind_eq_some_iff]

theorem trace_inv (R : IsRun step run) {P : List α → σ → Prop} {as : List α} {s s' : σ}
    (h : run s as = some s') (h0 : P [] s)
    (hstep : ∀ {pre s a s'}, P pre s → step s a = some s' → P (pre ++ [a]) s') : P as s' := by
  suffices ∀ pre s, P pre s → run s as = some s' → P (pre ++ as) s' from this [] s h0 h
  clear h0 h
  induction as with
  | nil => intro pre s h0 h; rw [R.nil, Option.some.injEq] at h; subst h; rwa [List.append_nil]
  | cons a as ih =>
    intro pre s h0 h
    obtain ⟨s1, h1, h2⟩ := R.cons_eq_some.mp h
    have := ih _ s1 (hstep h0 h1) h2
    rwa [List.append_assoc] at this

theorem inv (R : IsRun step run) {P : σ → Prop} {as : List α} {s s' : σ}
    (h : run s as = some s') (h0 : P s) (hstep : ∀ {s a s'}, P s → step s a = some s' → P s') : P s' :=
  R.trace_inv (P := fun _ => P) h h0 hstep

theorem append (R : IsRun step run) (s : σ) (a b : List α) :
    run s (a ++ b) = (run s a).bind (fun s' => run s' b) := by
  induction a generalizing s with
  | nil => rw [R.nil]; rfl
  | cons x a ih =>
    rw [List.cons_append, R.cons, R.cons]
    cases step s x with
    | none => rfl
    | some s1 => exact ih s1

theorem snoc (R : IsRun step run) {s₀ s s' : σ} {t : List α} {a : α} (h : run s₀ t = some s)
    (hs : step s a = some s') : run s₀ (t ++ [a]) = some s' := by
  rw [R.append, h, Option.bind_some, R.cons, hs, Option.bind_some, R.nil]

theorem split (R : IsRun step run) {s s' : σ} {t : List α} (h : run s t = some s') (k : Nat) :
    ∃ sk, run s (t.take k) = some sk ∧ run sk (t.drop k) = some s' := by
  rw [← List.take_append_drop k t, R.append, Option.bind_eq_some_iff] at h
  simpa using h

end IsRun

end Jubako
