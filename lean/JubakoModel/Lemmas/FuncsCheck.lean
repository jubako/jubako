/-
Ties of the check machinery (`common/check.rs`, `bases/block.rs`, the manifest's check stream, the declared pack
sizes) to the Rust bodies translated from the source on every run (Generated/FuncsCheck.lean, and
`CheckInfo::parse` of Generated/FuncsParse.lean).
-/
import JubakoModel.Model.Pack
import JubakoModel.Model.Crc
import JubakoModel.Model.DirLayout
import JubakoModel.Generated.FuncsCheck
import JubakoModel.Generated.FuncsParse
import JubakoModel.Lemmas.FuncsBytes
import JubakoModel.Lemmas.RawPropDecode
import JubakoModel.Lemmas.OutcomeLemmas

namespace Jubako

/-- `ManifestCheckStream::read`: the translated body gives the number of bytes asked of the underlying source and
    whether they are delivered as zeros; the source itself is the model's (it returns what it has). -/
theorem gen_checkStreamRead (packOff n pos : Nat) (src : Bytes) (req : Nat) :
    checkStreamRead packOff n pos src req =
      (let r := Generated.checkStreamStep packInfoBlockSize packOff (packOff + n * packInfoBlockSize) pos req
       (if r.2 then zeros (src.take r.1).length else src.take r.1, src.drop r.1)) := by
  unfold checkStreamRead Generated.checkStreamStep
  by_cases h1 : pos < packOff
  · simp [h1]
  · by_cases h2 : pos ≥ packOff + n * packInfoBlockSize
    · simp [h1, h2]
    · by_cases h3 : (pos - packOff) % packInfoBlockSize < Consts.packInfoToCheck <;> simp [h1, h2, h3]

/-- The `let pack_size = …` of the four creators, with `CheckKind::block_size` / `BlockCheck::size`: 37 bytes of
    check block with a blake3 hash, 5 without (container packs) — the numbers the writer models use. -/
theorem gen_packSizes (cip : Nat) :
    Generated.contentPackSize cip 64 = cip + 37 + 64 ∧
    Generated.directoryPackSize cip 64 = cip + 37 + 64 ∧
    Generated.manifestPackSize cip 64 = cip + 37 + 64 ∧
    Generated.containerPackSize cip 64 = cip + 5 + 64 := by
  simp [Generated.contentPackSize, Generated.directoryPackSize, Generated.manifestPackSize,
    Generated.containerPackSize, Generated.checkKindBlockSize, Generated.blockCheckSize]

/-- **The CRC check of a block is the source's**: `assert_slice_crc` (`bases/block.rs`) translated on every run —
    the CRC of everything but the last four bytes against those four bytes read big-endian, "corrupted" when
    they differ — is `checkBlock` of the model, for every byte string (the CRC-32C itself is the model's
    `crc32c`, whose parameters are read from the source on every run). -/
theorem gen_assertSliceCrc (full : Bytes) :
    Generated.assertSliceCrc (fun d => (crc32c d).toNat) be32Nat full =
      if checkBlock full then .ok () else .err .corrupted := by
  unfold Generated.assertSliceCrc checkBlock
  by_cases h : (crc32c (List.take (full.length - 4) full)).toNat = be32Nat (List.drop (full.length - 4) full) <;>
    simp [h]

/-- the stored hash as the source holds it (`CheckInfo.b3hash : Option<[u8; 32]>`) -/
def CheckInfo.toSrc : CheckInfo → Option Bytes
  | CheckInfo.none => Option.none
  | CheckInfo.blake3 h => some h

/-- `CheckInfo::serialize` -/
theorem gen_checkInfoWrites (ci : CheckInfo) : writesBytes (Generated.checkInfoWrites ci.toSrc) = ci.encode := by
  cases ci with
  | none => simp [CheckInfo.toSrc, Generated.checkInfoWrites, CheckInfo.encode, writesBytes_cons, writesBytes_nil, leBytes]
  | blake3 h =>
    simp only [CheckInfo.toSrc, Generated.checkInfoWrites, CheckInfo.encode, List.nil_append, writesBytes_append,
      writesBytes_bytes]
    simp [writesBytes_cons, writesBytes_nil, leBytes]

/-- `CheckInfo::parse` with `CheckKind::parse`, on every byte string -/
theorem gen_checkInfoParse (bs : Bytes) :
    (Generated.checkInfoParse bs).map' (·.1) = (CheckInfo.decode bs).map' CheckInfo.toSrc := by
  cases bs with
  | nil => rfl
  | cons k rest =>
    unfold Generated.checkInfoParse Generated.checkKindParse CheckInfo.decode
    -- the model compares the kind byte, the source its value
    simp only [takeLE_one, Outcome.bind_ok, ← UInt8.toNat_inj]
    generalize k.toNat = n
    split
    · rfl
    · simp only [Outcome.bind_ok, takeBytes, ge_iff_le]
      split <;> rfl
    · simp_all

/-- `CheckInfo::check`; the left side is the comparison `packCheck` ends with, written out (no lemma takes it out
    of `packCheck`, which tests `cip ≤ f.length` before the blake3 arm) -/
theorem gen_checkInfoCheck (ci : CheckInfo) (streamHash : Bytes) :
    (match ci with | CheckInfo.none => true | CheckInfo.blake3 stored => streamHash == stored) =
      Generated.checkInfoCheck ci.toSrc streamHash := by
  cases ci with
  | none => rfl
  | blake3 stored =>
    simp only [Generated.checkInfoCheck, CheckInfo.toSrc]
    by_cases he : streamHash = stored <;> simp [he]

/-- `PackHeader::check_info_size`, where the subtraction does not underflow (the model answers "panic" otherwise,
    as the u64 arithmetic of a debug build does) -/
theorem gen_checkInfoSize (h : PackHeader) (n : Nat) (hn : h.checkInfoSize = some n) :
    Generated.packHeaderCheckInfoSize h.packSize h.checkInfoPos 64 = n := by
  unfold PackHeader.checkInfoSize at hn
  split at hn
  · obtain rfl := Option.some.inj hn
    simp [Generated.packHeaderCheckInfoSize, Generated.blockCheckSize]
  · cases hn

end Jubako
