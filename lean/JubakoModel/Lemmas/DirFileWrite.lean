/-
Directory pack, file-level round trip: the written file segment by segment, its
length, that it is a `framePack` whose header describes the layout (`PackHeader.Frames`: what C04 needs),
and the CRC blocks it consists of, each where the writer's own bookkeeping says it is
(`DirIn.Blocks`); `DirectoryPack::new` on a file with these blocks; the reader of one index,
`dirGetIndex`.
-/
import JubakoModel.Lemmas.DirFileStore
import JubakoModel.Lemmas.Frame

namespace Jubako

theorem DirectoryHeader.encode_length (h : DirectoryHeader) (hf : h.freeData.length = 24) :
    h.encode.length = 60 := by
  simp [DirectoryHeader.encode, leBytes_length, zeros_length, hf]

/-- field widths: three `u64` positions, two `u32` counts, the value store count on one byte -/
theorem DirectoryHeader.decode_encode (h : DirectoryHeader) (h1 : h.indexPtrPos < 2 ^ 64)
    (h2 : h.entryStorePtrPos < 2 ^ 64) (h3 : h.valueStorePtrPos < 2 ^ 64)
    (h4 : h.indexCount < 2 ^ 32) (h5 : h.entryStoreCount < 2 ^ 32) (h6 : h.valueStoreCount < 256)
    (hf : h.freeData.length = 24) : DirectoryHeader.decode h.encode = .ok h := by
  have hlen := DirectoryHeader.encode_length h hf
  rw [DirectoryHeader.decode, if_neg (by omega)]
  seg_simp [DirectoryHeader.encode, List.append_assoc, hf]
  rw [leNat_leBytes_of_lt _ 8 h1, leNat_leBytes_of_lt _ 8 h2, leNat_leBytes_of_lt _ 8 h3,
    leNat_leBytes_of_lt _ 4 h4, leNat_leBytes_of_lt _ 4 h5, leNat_leBytes_of_lt _ 1 h6]

/-- field widths of an index tail: store id, count and offset are `u32`, the free data is 4 bytes,
    the key one byte, the name a p-string -/
theorem IndexInfo.decode_encode (i : IndexInfo) (h1 : i.storeId < 2 ^ 32) (h2 : i.count < 2 ^ 32)
    (h3 : i.offset < 2 ^ 32) (h4 : i.freeData.length = 4) (h5 : i.key < 256)
    (h6 : i.name.length ≤ 255) : IndexInfo.decode i.encode = .ok i := by
  obtain ⟨sid, cnt, off, fd, key, nm⟩ := i
  simp only at h1 h2 h3 h4 h5 h6
  have hp := takePString_encode nm [] h6
  rw [List.append_nil] at hp
  simp only [IndexInfo.encode, IndexInfo.decode, List.append_assoc, takeLE_leBytes,
    Outcome.ok_bind, takeBytes_append fd _ 4 h4, List.singleton_append, takeLE_one, hp,
    toNat_ofNat_u8, Nat.mod_eq_of_lt h5, Nat.mod_eq_of_lt (h1 : sid < 256 ^ 4),
    Nat.mod_eq_of_lt (h2 : cnt < 256 ^ 4), Nat.mod_eq_of_lt (h3 : off < 256 ^ 4)]

/-! `df…Bytes`: the bytes of a run of items the writer lays out with a fold (index tails, value
stores); `df…SOs`: the sized offsets it records for them. -/

def dfIdxBytes (tails : List Bytes) : Bytes := (tails.map block).flatten

def dfIdxSOs : List Bytes → Nat → List (Nat × Nat)
  | [], _ => []
  | t :: ts, pos => (pos, t.length) :: dfIdxSOs ts (pos + t.length + 4)

theorem dfIdxBytes_cons (t : Bytes) (ts : List Bytes) :
    dfIdxBytes (t :: ts) = block t ++ dfIdxBytes ts := by simp [dfIdxBytes]

theorem dfIdxBytes_length (tails : List Bytes) :
    (dfIdxBytes tails).length = (tails.map (fun t => t.length + 4)).sum := by
  induction tails with
  | nil => rfl
  | cons t ts ih => simp [dfIdxBytes_cons, block_length, ih]

theorem idxTails_foldl (tails : List Bytes) (b0 : Bytes) (s0 : List (Nat × Nat)) (p0 : Nat) :
    tails.foldl (fun (acc : Bytes × List (Nat × Nat) × Nat) t =>
      (acc.1 ++ block t, acc.2.1 ++ [(acc.2.2, t.length)], acc.2.2 + t.length + 4)) (b0, s0, p0) =
    (b0 ++ dfIdxBytes tails, s0 ++ dfIdxSOs tails p0, p0 + (dfIdxBytes tails).length) := by
  induction tails generalizing b0 s0 p0 with
  | nil => simp [dfIdxBytes, dfIdxSOs]
  | cons t ts ih =>
    simp only [List.foldl_cons, ih, dfIdxBytes_cons, dfIdxSOs, List.append_assoc,
      List.singleton_append, List.length_append, block_length]
    refine Prod.ext rfl (Prod.ext rfl ?_)
    simp only
    omega

def dfVsBytes (stores : List VStore) : Bytes := (stores.map (fun s => s.encode.1)).flatten

def dfVsSOs : List VStore → Nat → List (Nat × Nat)
  | [], _ => []
  | s :: ss, pos => (pos + s.encode.2.1, s.encode.2.2) :: dfVsSOs ss (pos + s.encode.1.length)

theorem dfVsBytes_cons (s : VStore) (ss : List VStore) :
    dfVsBytes (s :: ss) = s.encode.1 ++ dfVsBytes ss := by simp [dfVsBytes]

theorem dfVsBytes_append (a b : List VStore) : dfVsBytes (a ++ b) = dfVsBytes a ++ dfVsBytes b := by
  simp [dfVsBytes]

theorem dfVsBytes_length (stores : List VStore) :
    (dfVsBytes stores).length =
      (stores.map (fun s => s.dataSize + 4 + (s.tailBytes.length + 4))).sum := by
  induction stores with
  | nil => rfl
  | cons s ss ih =>
    rw [dfVsBytes_cons, List.length_append, ih, VStore.encode_fst_length, VStore.encode_eq]
    simp

theorem stores_foldl (stores : List VStore) (b0 : Bytes) (s0 : List (Nat × Nat)) (p0 : Nat) :
    stores.foldl (fun (acc : Bytes × List (Nat × Nat) × Nat) s =>
      let (b, rel, tl) := s.encode
      (acc.1 ++ b, acc.2.1 ++ [(acc.2.2 + rel, tl)], acc.2.2 + b.length)) (b0, s0, p0) =
    (b0 ++ dfVsBytes stores, s0 ++ dfVsSOs stores p0, p0 + (dfVsBytes stores).length) := by
  induction stores generalizing b0 s0 p0 with
  | nil => simp [dfVsBytes, dfVsSOs]
  | cons s ss ih =>
    simp only [List.foldl_cons, ih, dfVsBytes_cons, dfVsSOs, List.append_assoc,
      List.singleton_append, List.length_append]
    refine Prod.ext rfl (Prod.ext rfl ?_)
    simp only
    omega

theorem dfVsSOs_length (stores : List VStore) (pos : Nat) :
    (dfVsSOs stores pos).length = stores.length := by
  induction stores generalizing pos with
  | nil => rfl
  | cons s ss ih => simp [dfVsSOs, ih]

theorem dfIdxSOs_length (tails : List Bytes) (pos : Nat) :
    (dfIdxSOs tails pos).length = tails.length := by
  induction tails generalizing pos with
  | nil => rfl
  | cons s ss ih => simp [dfIdxSOs, ih]

theorem dfVsSOs_at (l1 : List VStore) (s : VStore) (l2 : List VStore) (pos : Nat) :
    (dfVsSOs (l1 ++ s :: l2) pos)[l1.length]? =
      some (pos + (dfVsBytes l1).length + s.encode.2.1, s.encode.2.2) := by
  induction l1 generalizing pos with
  | nil => simp [dfVsSOs, dfVsBytes]
  | cons a l1 ih =>
    simp only [List.cons_append, dfVsSOs, List.length_cons, List.getElem?_cons_succ, ih,
      dfVsBytes_cons, List.length_append, Nat.add_assoc]

def soTable (sos : List (Nat × Nat)) : Bytes :=
  (sos.map (fun so => sizedOffsetEncode so.1 so.2)).flatten

theorem soTable_length (sos : List (Nat × Nat)) : (soTable sos).length = 8 * sos.length :=
  flatten_fixed_length sos _ 8 (fun x => sizedOffsetEncode_length x.1 x.2)

theorem soTable_slice (sos : List (Nat × Nat)) (k : Nat) (so : Nat × Nat) (h : sos[k]? = some so) :
    slice (soTable sos) (8 * k) 8 = sizedOffsetEncode so.1 so.2 := by
  obtain ⟨hk, rfl⟩ := List.getElem?_eq_some_iff.1 h
  rw [Nat.mul_comm]
  exact slice_flatten_fixed_mem sos _ 8 (fun x _ => sizedOffsetEncode_length x.1 x.2) k hk

namespace DirIn

def idxTails (d : DirIn) : List Bytes :=
  d.indexes.map (fun ix => (⟨0, ix.count, ix.offset, zeros 4, 0, ix.name⟩ : IndexInfo).encode)

def idxBytes (d : DirIn) : Bytes := dfIdxBytes d.idxTails

/-- start of the entry data block -/
def pos1 (d : DirIn) : Nat := 128 + d.idxBytes.length

def entryBytes (d : DirIn) : Bytes := (d.entries.map (serializeEntry d.stores d.layout)).flatten

def esTail (d : DirIn) : Bytes := entryStoreTail d.layout d.entries.length

/-- position of the entry-store tail -/
def esPos (d : DirIn) : Nat := d.pos1 + (block d.entryBytes).length

/-- start of the value stores -/
def pos2 (d : DirIn) : Nat := d.pos1 + (block d.entryBytes).length + d.esTail.length + 4

def vsBytes (d : DirIn) : Bytes := dfVsBytes d.stores

/-- start of the three offset tables -/
def pos3 (d : DirIn) : Nat := d.pos2 + d.vsBytes.length

/-- the index table -/
def t1 (d : DirIn) : Bytes := soTable (dfIdxSOs d.idxTails 128)
/-- the value-store table -/
def t2 (d : DirIn) : Bytes := soTable (dfVsSOs d.stores d.pos2)
/-- the entry-store table -/
def t3 (d : DirIn) : Bytes := soTable [(d.esPos, d.esTail.length)]

def checkPos (d : DirIn) : Nat :=
  d.pos3 + (block d.t1).length + (block d.t2).length + (block d.t3).length

def dh (d : DirIn) (freeData : Bytes) : DirectoryHeader :=
  ⟨d.pos3, d.pos3 + (block d.t1).length + (block d.t2).length, d.pos3 + (block d.t1).length,
    d.indexes.length, 1, d.stores.length, freeData⟩

def header (d : DirIn) (vendor uuid : Bytes) : PackHeader :=
  ⟨PackKind.directory, vendor, Consts.versionMajor, Consts.versionMinor, uuid, 0,
    d.checkPos + 37 + 64, d.checkPos⟩

def body (d : DirIn) : Bytes :=
  d.idxBytes ++ (block d.entryBytes ++ (block d.esTail ++ (d.vsBytes ++
    (block d.t1 ++ (block d.t2 ++ block d.t3)))))

def trailer (d : DirIn) (H : Bytes → Bytes) (vendor uuid freeData : Bytes) : Bytes :=
  block (CheckInfo.blake3 (H (block (d.header vendor uuid).encode ++
    (block (d.dh freeData).encode ++ d.body)))).encode ++
  (block (d.header vendor uuid).encode).reverse

end DirIn

theorem dirPackWrite_eq (H : Bytes → Bytes) (vendor uuid freeData : Bytes) (d : DirIn) :
    dirPackWrite H vendor uuid freeData d =
      block (d.header vendor uuid).encode ++ (block (d.dh freeData).encode ++
        (d.idxBytes ++ (block d.entryBytes ++ (block d.esTail ++ (d.vsBytes ++
          (block d.t1 ++ (block d.t2 ++ (block d.t3 ++ d.trailer H vendor uuid freeData)))))))) := by
  -- `d.stores` with the pattern-matching function the model writes
  have hst : (d.storeKinds.zipIdx.map
      (fun (x : Bool × Nat) => match x with
        | (ix, i) => VStore.finalize ix (addedTo d.schema d.entries i))) = d.stores := rfl
  unfold dirPackWrite
  simp only [hst]
  rw [show finalizeSchema d.stores d.schema d.entries = d.layout from rfl]
  rw [show (d.indexes.map (fun ix =>
      (⟨0, ix.count, ix.offset, zeros 4, 0, ix.name⟩ : IndexInfo).encode)) = d.idxTails from rfl]
  rw [idxTails_foldl, stores_foldl]
  simp only [List.nil_append, framePack, packTail, id, List.append_assoc, DirIn.trailer,
    DirIn.header, DirIn.dh, DirIn.checkPos, DirIn.body, DirIn.t1, DirIn.t2, DirIn.t3, DirIn.pos3,
    DirIn.pos2, DirIn.esPos, DirIn.pos1, DirIn.vsBytes, DirIn.idxBytes, DirIn.esTail,
    DirIn.entryBytes, soTable]

theorem DirIn.header_WF (d : DirIn) (vendor uuid : Bytes) (hv : vendor.length = 4)
    (hu : uuid.length = 16) (hs : d.checkPos + 37 + 64 < 2 ^ 64) : (d.header vendor uuid).WF :=
  PackHeader.WF_written _ _ _ _ _ hv hu hs (by omega)

theorem DirIn.t1_length (d : DirIn) : d.t1.length = 8 * d.indexes.length := by
  simp [DirIn.t1, soTable_length, dfIdxSOs_length, DirIn.idxTails]

theorem DirIn.t2_length (d : DirIn) : d.t2.length = 8 * d.stores.length := by
  simp [DirIn.t2, soTable_length, dfVsSOs_length]

theorem DirIn.t3_length (d : DirIn) : d.t3.length = 8 := by
  simp [DirIn.t3, soTable_length]

theorem DirIn.header_encode_length (d : DirIn) (vendor uuid : Bytes) (hv : vendor.length = 4)
    (hu : uuid.length = 16) : (d.header vendor uuid).encode.length = 60 :=
  PackHeader.encode_length' _ hv hu

theorem dirPackWrite_length (H : Bytes → Bytes) (vendor uuid freeData : Bytes) (d : DirIn)
    (hv : vendor.length = 4) (hu : uuid.length = 16) (hfd : freeData.length = 24) :
    (dirPackWrite H vendor uuid freeData d).length =
      d.checkPos + (d.trailer H vendor uuid freeData).length := by
  have hel := d.header_encode_length vendor uuid hv hu
  have hdl := DirectoryHeader.encode_length (d.dh freeData) hfd
  rw [dirPackWrite_eq]
  simp only [List.length_append, block_length, hel, hdl, DirIn.checkPos, DirIn.pos3, DirIn.pos2,
    DirIn.pos1]
  -- left in the context, the length hypotheses make `omega` compare their atoms with those of the goal by
  -- unfolding both, which is slow
  clear hel hdl hv hu hfd
  omega

theorem DirIn.written_length (H : Bytes → Bytes) (vendor uuid freeData : Bytes) (d : DirIn)
    (hv : vendor.length = 4) (hu : uuid.length = 16) (hfd : freeData.length = 24)
    (hH : ∀ x, (H x).length = 32) :
    (dirPackWrite H vendor uuid freeData d).length = d.checkPos + 37 + 64 := by
  rw [dirPackWrite_length H vendor uuid freeData d hv hu hfd]
  simp only [DirIn.trailer, List.length_append, List.length_reverse, block_length,
    d.header_encode_length vendor uuid hv hu, CheckInfo.encode, List.length_cons, hH]

theorem dirPackWrite_frame (H : Bytes → Bytes) (vendor uuid freeData : Bytes) (d : DirIn) :
    dirPackWrite H vendor uuid freeData d =
      framePack H id (d.header vendor uuid) (block (d.dh freeData).encode ++ d.body) := by
  rw [dirPackWrite_eq]
  simp only [framePack, packTail, DirIn.trailer, DirIn.body, id, List.append_assoc]

theorem DirIn.header_frames (d : DirIn) (vendor uuid freeData : Bytes) (hv : vendor.length = 4)
    (hu : uuid.length = 16) (hfd : freeData.length = 24) (hs : d.checkPos + 37 + 64 < 2 ^ 64) :
    (d.header vendor uuid).Frames (block (d.dh freeData).encode ++ d.body) := by
  refine ⟨d.header_WF vendor uuid hv hu hs, ⟨rfl, rfl⟩, ?_, rfl⟩
  show d.checkPos = _
  simp only [List.length_append, block_length, DirectoryHeader.encode_length (d.dh freeData) hfd,
    DirIn.body, DirIn.checkPos, DirIn.pos3, DirIn.pos2, DirIn.pos1]
  omega

theorem DirIn.checkPos_lt (H : Bytes → Bytes) (vendor uuid freeData : Bytes) (d : DirIn)
    (hv : vendor.length = 4) (hu : uuid.length = 16) (hfd : freeData.length = 24)
    (hH : ∀ x, (H x).length = 32) (hsize : (dirPackWrite H vendor uuid freeData d).length < 2 ^ 48) :
    d.checkPos + 37 + 64 < 2 ^ 64 := by
  have := d.written_length H vendor uuid freeData hv hu hfd hH
  omega

/-- the length in quantities that need no CRC computation; `hH`: a 32-byte hash, as blake3 -/
theorem dirPackWrite_length_formula (H : Bytes → Bytes) (vendor uuid freeData : Bytes) (d : DirIn)
    (hv : vendor.length = 4) (hu : uuid.length = 16) (hfd : freeData.length = 24)
    (hH : ∀ x, (H x).length = 32) :
    (dirPackWrite H vendor uuid freeData d).length =
      128 + (d.idxTails.map (fun t => t.length + 4)).sum + (d.entryBytes.length + 4) +
        (d.esTail.length + 4) +
        (d.stores.map (fun s => s.dataSize + 4 + (s.tailBytes.length + 4))).sum +
        (8 * d.indexes.length + 4) + (8 * d.stores.length + 4) + 12 + 37 + 64 := by
  rw [d.written_length H vendor uuid freeData hv hu hfd hH]
  simp only [DirIn.checkPos, DirIn.pos3, DirIn.pos2, DirIn.pos1, block_length, d.t1_length, d.t2_length,
    d.t3_length, DirIn.idxBytes, DirIn.vsBytes, dfIdxBytes_length, dfVsBytes_length]
  omega

theorem readBlock_idxTails {f g : Bytes} (tails : List Bytes) {p : Nat}
    (h : f.drop p = dfIdxBytes tails ++ g) (k : Nat) (hk : k < tails.length) :
    ∃ q, (dfIdxSOs tails p)[k]? = some (q, tails[k].length) ∧
      readBlock f q tails[k].length = .ok tails[k] := by
  induction tails generalizing p k with
  | nil => simp at hk
  | cons t ts ih =>
    rw [dfIdxBytes_cons, List.append_assoc] at h
    cases k with
    | zero => exact ⟨p, rfl, readBlock_of_drop h rfl⟩
    | succ k => exact ih (drop_skip_block h) k (by simpa using hk)

theorem readBlock_stores {f g : Bytes} (stores : List VStore) {p : Nat}
    (h : f.drop p = dfVsBytes stores ++ g) (k : Nat) (hk : k < stores.length) :
    ∃ q, (dfVsSOs stores p)[k]? =
        some (q + stores[k].dataSize + 4, stores[k].tailBytes.length) ∧
      readBlock f q stores[k].dataSize = .ok stores[k].data ∧
      readBlock f (q + stores[k].dataSize + 4) stores[k].tailBytes.length =
        .ok stores[k].tailBytes := by
  induction stores generalizing p k with
  | nil => simp at hk
  | cons s ss ih =>
    rw [dfVsBytes_cons, List.append_assoc] at h
    cases k with
    | zero =>
      refine ⟨p, ?_, s.encode_blocks h⟩
      simp only [dfVsSOs, VStore.encode_eq, List.getElem?_cons_zero, List.getElem_cons_zero,
        Nat.add_assoc]
    | succ k => exact ih (drop_skip h) k (by simpa using hk)

/-- The CRC blocks of the pack written for `d`, where the writer's own bookkeeping says they are.
    The reader lemmas are about a file with these blocks, never about `dirPackWrite` itself. -/
structure DirIn.Blocks (d : DirIn) (vendor uuid freeData : Bytes) (f : Bytes) : Prop where
  header : readBlock f 0 60 = .ok (d.header vendor uuid).encode
  dirHeader : readBlock f 64 60 = .ok (d.dh freeData).encode
  indexTail : ∀ k (hk : k < d.idxTails.length), ∃ p,
    (dfIdxSOs d.idxTails 128)[k]? = some (p, d.idxTails[k].length) ∧
    readBlock f p d.idxTails[k].length = .ok d.idxTails[k]
  entries : readBlock f d.pos1 d.entryBytes.length = .ok d.entryBytes
  entryTail : readBlock f d.esPos d.esTail.length = .ok d.esTail
  store : ∀ k (hk : k < d.stores.length), ∃ p,
    (dfVsSOs d.stores d.pos2)[k]? =
      some (p + d.stores[k].dataSize + 4, d.stores[k].tailBytes.length) ∧
    readBlock f p d.stores[k].dataSize = .ok d.stores[k].data ∧
    readBlock f (p + d.stores[k].dataSize + 4) d.stores[k].tailBytes.length =
      .ok d.stores[k].tailBytes
  indexTable : readBlock f (d.dh freeData).indexPtrPos (8 * d.indexes.length) = .ok d.t1
  valueTable : readBlock f (d.dh freeData).valueStorePtrPos (8 * d.stores.length) = .ok d.t2
  entryTable : readBlock f (d.dh freeData).entryStorePtrPos (8 * 1) = .ok d.t3

theorem dirPackWrite_blocks (H : Bytes → Bytes) (vendor uuid freeData : Bytes) (d : DirIn)
    (hv : vendor.length = 4) (hu : uuid.length = 16) (hfd : freeData.length = 24) :
    d.Blocks vendor uuid freeData (dirPackWrite H vendor uuid freeData d) := by
  have hel := d.header_encode_length vendor uuid hv hu
  have hdl := DirectoryHeader.encode_length (d.dh freeData) hfd
  have c0 := dirPackWrite_eq H vendor uuid freeData d
  generalize dirPackWrite H vendor uuid freeData d = f at c0 ⊢
  -- the walk: each position is the one before plus the length of what stands there, as the writer
  -- computes `pos1` … `pos3` and the positions in the two headers
  have c1 : f.drop 64 = _ := drop_skip_len (p := 0) c0 (by rw [block_length, hel])
  have c2 : f.drop 128 = _ := drop_skip_len c1 (by rw [block_length, hdl])
  have c3 : f.drop d.pos1 = _ := drop_skip c2
  have c4 : f.drop d.esPos = _ := drop_skip c3
  have c5 : f.drop d.pos2 = _ := drop_skip_block c4
  have c6 : f.drop d.pos3 = _ := drop_skip c5
  have c7 := drop_skip c6
  exact ⟨readBlock_of_drop c0 hel, readBlock_of_drop c1 hdl, readBlock_idxTails _ c2,
    readBlock_of_drop c3 rfl, readBlock_of_drop c4 rfl, readBlock_stores _ c5,
    readBlock_of_drop c6 d.t1_length, readBlock_of_drop c7 d.t2_length,
    readBlock_of_drop (drop_skip c7) d.t3_length⟩

namespace DirIn.Blocks

variable {d : DirIn} {vendor uuid freeData f : Bytes} (B : d.Blocks vendor uuid freeData f)
include B

/-- `hsize` is the limit the callers have (a `SizedOffset` keeps 6 bytes for the offset); what is
    used of it is `< 2 ^ 64`, the width of the positions in the two headers. -/
theorem opens (hv : vendor.length = 4) (hu : uuid.length = 16) (hfd : freeData.length = 24)
    (hns : d.stores.length < 256) (hni : d.indexes.length < 2 ^ 32) (hsize : f.length < 2 ^ 48) :
    directoryOpen f = .ok (d.header vendor uuid, d.dh freeData) := by
  -- the last table lies in the file, and the check position is where it ends
  have hcp : d.checkPos ≤ f.length := by
    have := readBlock_bounds B.entryTable
    simp only [DirIn.checkPos, DirIn.dh, block_length, d.t3_length] at this ⊢
    omega
  have hoh : openHeader f .directory = .ok (d.header vendor uuid) :=
    openHeader_of_block _ B.header (d.header_WF vendor uuid hv hu (by omega)) ⟨rfl, rfl⟩
  -- the three tables lie in the file, so their positions are below `2 ^ 64`
  have h1 := readBlock_bounds B.indexTable
  have h2 := readBlock_bounds B.entryTable
  have h3 := readBlock_bounds B.valueTable
  have hdd := DirectoryHeader.decode_encode (d.dh freeData) (by omega) (by omega) (by omega) hni
    (by show 1 < 2 ^ 32; decide) hns hfd
  simp only [directoryOpen, hoh, B.dirHeader, hdd, Outcome.ok_bind]
  rw [show (d.dh freeData).valueStoreCount = d.stores.length from rfl,
    show (d.dh freeData).entryStoreCount = 1 from rfl,
    show (d.dh freeData).indexCount = d.indexes.length from rfl,
    B.valueTable, B.entryTable, B.indexTable]
  rfl

end DirIn.Blocks

theorem directoryOpen_dirPackWrite (H : Bytes → Bytes) (vendor uuid freeData : Bytes) (d : DirIn)
    (hv : vendor.length = 4) (hu : uuid.length = 16) (hfd : freeData.length = 24)
    (hns : d.stores.length < 256) (hni : d.indexes.length < 2 ^ 32)
    (hsize : (dirPackWrite H vendor uuid freeData d).length < 2 ^ 48) :
    directoryOpen (dirPackWrite H vendor uuid freeData d) =
        .ok (d.header vendor uuid, d.dh freeData) ∧
    readBlock (dirPackWrite H vendor uuid freeData d) (d.dh freeData).valueStorePtrPos
        (8 * d.stores.length) = .ok d.t2 ∧
    readBlock (dirPackWrite H vendor uuid freeData d) (d.dh freeData).entryStorePtrPos (8 * 1) =
        .ok d.t3 ∧
    readBlock (dirPackWrite H vendor uuid freeData d) (d.dh freeData).indexPtrPos
        (8 * d.indexes.length) = .ok d.t1 ∧
    readBlock (dirPackWrite H vendor uuid freeData d) d.esPos d.esTail.length = .ok d.esTail ∧
    readBlock (dirPackWrite H vendor uuid freeData d) d.pos1 d.entryBytes.length =
        .ok d.entryBytes :=
  have B := dirPackWrite_blocks H vendor uuid freeData d hv hu hfd
  ⟨B.opens hv hu hfd hns hni hsize, B.valueTable, B.entryTable, B.indexTable, B.entryTail,
    B.entries⟩

/-! `dirGetIndex` is declared here and not beside `dirGetEntry` (Lemmas/DirFile.lean) so that each has an
auxiliary matcher of its own: within one module Lean shares the matcher of their common first line. -/

/-- The model functions `Driver.decodeDirPack` (`Driver/OpsDir.lean`) runs for every index, composed
    for one; no lemma relates the two compositions. -/
def dirGetIndex (f : Bytes) (k : Nat) : Outcome IndexInfo := do
  let (_, dh) ← directoryOpen f
  let it ← readBlock f dh.indexPtrPos (8 * dh.indexCount)
  if k < dh.indexCount then do
    let so := sizedOffsetDecode (slice it (8 * k) 8)
    let b ← readBlock f so.1 so.2
    IndexInfo.decode b
  else .err .other

theorem dirGetIndex_of_open {f : Bytes} {h : PackHeader} {dh : DirectoryHeader} {it t : Bytes}
    {k : Nat} {so : Nat × Nat} (ho : directoryOpen f = .ok (h, dh))
    (hit : readBlock f dh.indexPtrPos (8 * dh.indexCount) = .ok it) (hk : k < dh.indexCount)
    (hso : sizedOffsetDecode (slice it (8 * k) 8) = so) (ht : readBlock f so.1 so.2 = .ok t) :
    dirGetIndex f k = IndexInfo.decode t := by
  simp only [dirGetIndex, ho, hit, hk, hso, ht, Outcome.ok_bind, if_true]

end Jubako
