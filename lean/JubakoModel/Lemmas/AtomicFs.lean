/-
The file-system discipline (`Model/AtomicFs.lean`): for every disciplined trace, crash point and initial
file system, a final path holds its old content or the complete content of the temporary renamed onto
it, and the entry-point is renamed last.  `FsInv` ties the checker state, the file system and the prefix
run so far; `discRun_suffix` says what the accepted remainder cannot do; `renamed_complete` joins the two.
-/
import JubakoModel.Model.AtomicFs
import JubakoModel.Lemmas.Run

namespace Jubako

namespace FSt

theorem get_remove_same (fs : FSt) (p : FPath) : (fs.remove p).get p = none := by
  simp [get, remove, List.find?_eq_none]

theorem get_remove_other {fs : FSt} {p q : FPath} (h : q ≠ p) :
    (fs.remove p).get q = fs.get q := by
  simp only [get, remove, List.find?_filter]
  congr 2
  funext e
  by_cases h3 : e.1 = q
  · simp [h3, h]
  · simp [h3]

theorem get_set_same (fs : FSt) (p : FPath) (c : List Nat) : (fs.set p c).get p = some c := by
  simp [get, set]

theorem get_set_other {fs : FSt} {p q : FPath} {c : List Nat} (h : q ≠ p) :
    (fs.set p c).get q = fs.get q := by
  have h' : ¬ p = q := fun hh => h hh.symm
  rw [← get_remove_other (fs := fs) h]
  simp [get, set, h']

theorem run_append (fs : FSt) (a b : List FsOp) : fs.run (a ++ b) = (fs.run a).run b := by
  simp [run, List.foldl_append]

theorem run_cons (fs : FSt) (op : FsOp) (b : List FsOp) :
    fs.run (op :: b) = (fs.apply op).run b := rfl

theorem run_nil (fs : FSt) : fs.run [] = fs := rfl

end FSt

theorem allWritesTo_append (p : FPath) (a b : List FsOp) :
    allWritesTo p (a ++ b) = allWritesTo p a ++ allWritesTo p b := by
  simp [allWritesTo, List.filterMap_append]

theorem renamesOf_append (a b : List FsOp) : renamesOf (a ++ b) = renamesOf a ++ renamesOf b := by
  simp [renamesOf, List.filterMap_append]

@[simp] theorem allWritesTo_nil (p : FPath) : allWritesTo p [] = [] := rfl
@[simp] theorem renamesOf_nil : renamesOf [] = [] := rfl

theorem allWritesTo_snoc (p : FPath) (pre : List FsOp) (op : FsOp) :
    allWritesTo p (pre ++ [op]) =
      match op with
      | .write q tok => if q = p then allWritesTo p pre ++ [tok] else allWritesTo p pre
      | _ => allWritesTo p pre := by
  rw [allWritesTo_append]
  cases op with
  | write q tok => by_cases h : q = p <;> simp [allWritesTo, h]
  | _ => exact List.append_nil _

theorem renamesOf_snoc (pre : List FsOp) (op : FsOp) :
    renamesOf (pre ++ [op]) =
      match op with
      | .rename s d => renamesOf pre ++ [(s, d)]
      | _ => renamesOf pre := by
  rw [renamesOf_append]
  cases op with
  | rename s d => rfl
  | _ => exact List.append_nil _

theorem mem_renamesOf {t : List FsOp} {s d : FPath} :
    (s, d) ∈ renamesOf t ↔ FsOp.rename s d ∈ t := by
  simp only [renamesOf, List.mem_filterMap]
  constructor
  · rintro ⟨op, hop, h⟩
    cases op <;> simp at h
    obtain ⟨rfl, rfl⟩ := h
    exact hop
  · intro h
    exact ⟨_, h, rfl⟩

theorem mem_allWritesTo {t : List FsOp} {p : FPath} {tok : Nat} :
    tok ∈ allWritesTo p t ↔ FsOp.write p tok ∈ t := by
  simp only [allWritesTo, List.mem_filterMap]
  constructor
  · rintro ⟨op, hop, h⟩
    cases op <;> simp at h
    obtain ⟨rfl, rfl⟩ := h
    exact hop
  · intro h
    exact ⟨_, h, by simp⟩

variable {isTemp : FPath → Bool} {entry : FPath} {oldPaths : List FPath} {old : FSt} {t : List FsOp}

theorem discRun_isRun : IsRun (discStep isTemp entry oldPaths) (discRun isTemp entry oldPaths) :=
  ⟨fun _ => rfl, fun _ _ _ => rfl⟩

theorem discStep_create_iff {s s' : DiscSt} {p : FPath} :
    discStep isTemp entry oldPaths s (.create p) = some s' ↔
      isTemp p = true ∧ p ∉ oldPaths ∧ p ∉ s.created ∧
        s' = { s with live := p :: s.live, created := p :: s.created } := by
  simp [discStep, and_assoc, @eq_comm _ s']

theorem discStep_write_iff {s s' : DiscSt} {p : FPath} {tok : Nat} :
    discStep isTemp entry oldPaths s (.write p tok) = some s' ↔ p ∈ s.live ∧ s' = s := by
  simp [discStep, @eq_comm _ s']

theorem discStep_rename_iff {s s' : DiscSt} {src dst : FPath} :
    discStep isTemp entry oldPaths s (.rename src dst) = some s' ↔
      src ∈ s.live ∧ isTemp dst = false ∧ s.entryDone = false ∧ dst ∉ s.renamedFinals ∧
        s' = { s with live := s.live.filter (· != src), renamedFinals := dst :: s.renamedFinals,
                      entryDone := dst == entry } := by
  simp [discStep, and_assoc, @eq_comm _ s']

theorem discStep_unlink_iff {s s' : DiscSt} {p : FPath} :
    discStep isTemp entry oldPaths s (.unlink p) = some s' ↔
      p ∈ s.live ∧ s' = { s with live := s.live.filter (· != p) } := by
  simp [discStep, @eq_comm _ s']

/-! The `.mp` directions of the four, under the names the C09 check lists. -/

theorem discStep_create {s s' : DiscSt} {p : FPath}
    (h : discStep isTemp entry oldPaths s (.create p) = some s') :
    isTemp p = true ∧ p ∉ oldPaths ∧ p ∉ s.created ∧
      s' = { s with live := p :: s.live, created := p :: s.created } :=
  discStep_create_iff.mp h

theorem discStep_write {s s' : DiscSt} {p : FPath} {tok : Nat}
    (h : discStep isTemp entry oldPaths s (.write p tok) = some s') :
    p ∈ s.live ∧ s' = s :=
  discStep_write_iff.mp h

theorem discStep_rename {s s' : DiscSt} {src dst : FPath}
    (h : discStep isTemp entry oldPaths s (.rename src dst) = some s') :
    src ∈ s.live ∧ isTemp dst = false ∧ s.entryDone = false ∧ dst ∉ s.renamedFinals ∧
      s' = { s with live := s.live.filter (· != src), renamedFinals := dst :: s.renamedFinals,
                    entryDone := dst == entry } :=
  discStep_rename_iff.mp h

theorem discStep_unlink {s s' : DiscSt} {p : FPath}
    (h : discStep isTemp entry oldPaths s (.unlink p) = some s') :
    p ∈ s.live ∧ s' = { s with live := s.live.filter (· != p) } :=
  discStep_unlink_iff.mp h

/-- `IsRun.cons_eq_some` under the name the C09 check lists -/
theorem discRun_cons {s s' : DiscSt} {op : FsOp} {rest : List FsOp}
    (h : discRun isTemp entry oldPaths s (op :: rest) = some s') :
    ∃ s1, discStep isTemp entry oldPaths s op = some s1 ∧
      discRun isTemp entry oldPaths s1 rest = some s' :=
  discRun_isRun.cons_eq_some.mp h

theorem discRun_append (s : DiscSt) (a b : List FsOp) :
    discRun isTemp entry oldPaths s (a ++ b) =
      (discRun isTemp entry oldPaths s a).bind (fun s' => discRun isTemp entry oldPaths s' b) :=
  discRun_isRun.append s a b

theorem discipline_iff {t : List FsOp} :
    Discipline isTemp entry oldPaths t = true ↔
      ∃ s, discRun isTemp entry oldPaths ⟨[], [], [], false⟩ t = some s := by
  simp [Discipline, Option.isSome_iff_exists]

theorem discipline_take (isTemp : FPath → Bool) (entry : FPath) (oldPaths : List FPath)
    (t : List FsOp) (k : Nat) (h : Discipline isTemp entry oldPaths t = true) :
    Discipline isTemp entry oldPaths (t.take k) = true := by
  rw [discipline_iff] at h ⊢
  obtain ⟨s, hs⟩ := h
  obtain ⟨sk, hk, _⟩ := discRun_isRun.split hs k
  exact ⟨sk, hk⟩

theorem discRun_suffix {s s' : DiscSt} {rest : List FsOp}
    (h : discRun isTemp entry oldPaths s rest = some s') :
    (∀ p, p ∈ s.created → p ∈ s'.created) ∧ (∀ p, FsOp.create p ∈ rest → p ∈ s'.created) ∧
    (∀ p, p ∈ s.created → p ∉ s.live → p ∉ s'.live ∧ allWritesTo p rest = []) ∧
    (s.entryDone = true → s'.entryDone = true ∧ renamesOf rest = []) := by
  apply discRun_isRun.trace_inv h
  · exact ⟨fun _ h => h, nofun, fun _ _ h => ⟨h, rfl⟩, fun h => ⟨h, rfl⟩⟩
  rintro pre s1 op s2 ⟨h1, h2, h3, h4⟩ hstep
  cases op with
  | create q =>
    obtain ⟨-, -, hq, rfl⟩ := discStep_create hstep
    simp only [allWritesTo_snoc, renamesOf_snoc, List.mem_append, List.mem_singleton]
    refine ⟨fun p hp => List.mem_cons_of_mem _ (h1 p hp), ?_, fun p hp hl => ⟨?_, (h3 p hp hl).2⟩, h4⟩
    · rintro p (hp | hp)
      · exact List.mem_cons_of_mem _ (h2 p hp)
      · cases hp; exact List.mem_cons_self
    · exact fun hm => (List.mem_cons.mp hm).elim (fun hh => hq (hh ▸ h1 p hp)) (h3 p hp hl).1
  | write q tok =>
    obtain ⟨hq, rfl⟩ := discStep_write hstep
    simp only [allWritesTo_snoc, renamesOf_snoc, List.mem_append, List.mem_singleton]
    refine ⟨h1, fun p hp => h2 p (hp.resolve_right nofun), fun p hp hl => ⟨(h3 p hp hl).1, ?_⟩, h4⟩
    rw [if_neg (fun hh : q = p => (h3 p hp hl).1 (hh ▸ hq))]; exact (h3 p hp hl).2
  | rename src dst =>
    obtain ⟨-, -, hf, -, rfl⟩ := discStep_rename hstep
    simp only [allWritesTo_snoc, renamesOf_snoc, List.mem_append, List.mem_singleton]
    refine ⟨h1, fun p hp => h2 p (hp.resolve_right nofun),
      fun p hp hl => ⟨fun hm => (h3 p hp hl).1 (List.mem_filter.mp hm).1, (h3 p hp hl).2⟩, fun he => ?_⟩
    rw [(h4 he).1] at hf; cases hf
  | unlink q =>
    obtain ⟨-, rfl⟩ := discStep_unlink hstep
    simp only [allWritesTo_snoc, renamesOf_snoc, List.mem_append, List.mem_singleton]
    exact ⟨h1, fun p hp => h2 p (hp.resolve_right nofun),
      fun p hp hl => ⟨fun hm => (h3 p hp hl).1 (List.mem_filter.mp hm).1, (h3 p hp hl).2⟩, h4⟩

/-- `ds` is the checker state and `fs` the file system after the prefix `pre` of the trace -/
structure FsInv (isTemp : FPath → Bool) (entry : FPath) (old : FSt) (pre : List FsOp)
    (ds : DiscSt) (fs : FSt) : Prop where
  /-- a live temporary holds exactly the writes it received so far -/
  live : ∀ p, p ∈ ds.live → p ∈ ds.created ∧ fs.get p = some (allWritesTo p pre)
  created : ∀ p, p ∈ ds.created → isTemp p = true
  /-- a temporary of this run that is no longer live does not exist -/
  dead : ∀ p, p ∈ ds.created → p ∉ ds.live → fs.get p = none
  fresh : ∀ p, p ∉ ds.created → allWritesTo p pre = []
  /-- a renamed final holds every write its temporary received so far (and the temporary is dead,
      so it will not receive any more) -/
  ren : ∀ s d, (s, d) ∈ renamesOf pre →
    isTemp d = false ∧ d ∈ ds.renamedFinals ∧ s ∈ ds.created ∧ s ∉ ds.live ∧
      fs.get d = some (allWritesTo s pre)
  untouched : ∀ d, isTemp d = false → d ∉ ds.renamedFinals → fs.get d = old.get d
  finals : ∀ d, d ∈ ds.renamedFinals → ∃ s, (s, d) ∈ renamesOf pre
  entryDone : ∀ s, (s, entry) ∈ renamesOf pre → ds.entryDone = true

theorem fsInv_init : FsInv isTemp entry old [] ⟨[], [], [], false⟩ old := by
  refine ⟨?_, ?_, ?_, ?_, ?_, ?_, ?_, ?_⟩ <;> simp

theorem ne_of_isTemp {isTemp : FPath → Bool} {p d : FPath} (hp : isTemp p = true)
    (hd : isTemp d = false) : d ≠ p := by
  intro h; rw [h, hp] at hd; cases hd

/-- The operation touches one temporary `p` of this run (and, for a rename, one final path); every clause
    about another path carries over because that path differs from `p`: it is not a temporary, or it is
    one in another state of its life than `p`. -/
theorem fsInv_step {pre : List FsOp} {ds ds' : DiscSt} {fs : FSt} {op : FsOp}
    (I : FsInv isTemp entry old pre ds fs)
    (h : discStep isTemp entry oldPaths ds op = some ds') :
    FsInv isTemp entry old (pre ++ [op]) ds' (fs.apply op) := by
  cases op with
  | create p =>
    obtain ⟨hT, -, hnc, rfl⟩ := discStep_create h
    refine ⟨?_, ?_, ?_, ?_, ?_, ?_, ?_, ?_⟩ <;>
      simp only [allWritesTo_snoc, renamesOf_snoc, FSt.apply, List.mem_cons, not_or]
    · rintro q (rfl | hq)
      · exact ⟨.inl rfl, by rw [FSt.get_set_same, I.fresh q hnc]⟩
      · obtain ⟨hc, hg⟩ := I.live q hq
        exact ⟨.inr hc, by rw [FSt.get_set_other (ne_of_mem_of_not_mem hc hnc), hg]⟩
    · rintro q (rfl | hq)
      · exact hT
      · exact I.created q hq
    · rintro q (rfl | hq) ⟨hne, hnl⟩
      · exact absurd rfl hne
      · rw [FSt.get_set_other hne]; exact I.dead q hq hnl
    · exact fun q hq => I.fresh q hq.2
    · intro s d hsd
      obtain ⟨h1, h2, h3, h4, h5⟩ := I.ren s d hsd
      exact ⟨h1, h2, .inr h3, ⟨ne_of_mem_of_not_mem h3 hnc, h4⟩,
        by rw [FSt.get_set_other (ne_of_isTemp hT h1)]; exact h5⟩
    · intro d hd hnr
      rw [FSt.get_set_other (ne_of_isTemp hT hd)]; exact I.untouched d hd hnr
    · exact I.finals
    · exact I.entryDone
  | write p tok =>
    obtain ⟨hlive, rfl⟩ := discStep_write h
    obtain ⟨hpc, hpg⟩ := I.live p hlive
    have hT := I.created p hpc
    refine ⟨?_, I.created, ?_, ?_, ?_, ?_, ?_, ?_⟩ <;>
      simp only [allWritesTo_snoc, renamesOf_snoc, FSt.apply, hpg]
    · intro q hq
      obtain ⟨hc, hg⟩ := I.live q hq
      refine ⟨hc, ?_⟩
      split
      · next hqp => rw [← hqp, FSt.get_set_same]
      · next hqp => rw [FSt.get_set_other (Ne.symm hqp), hg]
    · intro q hq hnl
      rw [FSt.get_set_other (fun hh : q = p => hnl (hh ▸ hlive))]; exact I.dead q hq hnl
    · intro q hq
      rw [if_neg (fun hh : p = q => hq (hh ▸ hpc))]; exact I.fresh q hq
    · intro s d hsd
      obtain ⟨h1, h2, h3, h4, h5⟩ := I.ren s d hsd
      rw [if_neg (fun hh : p = s => h4 (hh ▸ hlive)), FSt.get_set_other (ne_of_isTemp hT h1)]
      exact ⟨h1, h2, h3, h4, h5⟩
    · intro d hd hnr
      rw [FSt.get_set_other (ne_of_isTemp hT hd)]; exact I.untouched d hd hnr
    · exact I.finals
    · exact I.entryDone
  | rename src dst =>
    obtain ⟨hlive, hdT, hed, hnr, rfl⟩ := discStep_rename h
    obtain ⟨hsc, hsg⟩ := I.live src hlive
    have hT := I.created src hsc
    refine ⟨?_, I.created, ?_, ?_, ?_, ?_, ?_, ?_⟩ <;>
      simp only [allWritesTo_snoc, renamesOf_snoc, FSt.apply, hsg, List.mem_append, List.mem_cons,
        List.not_mem_nil, or_false, Prod.mk.injEq, not_or, List.mem_filter, bne_iff_ne, ne_eq, not_and,
        Classical.not_not]
    · rintro q ⟨hq, hqs⟩
      obtain ⟨hc, hg⟩ := I.live q hq
      exact ⟨hc, by rw [FSt.get_set_other (ne_of_isTemp (I.created q hc) hdT).symm,
        FSt.get_remove_other hqs, hg]⟩
    · intro q hq hnl
      rw [FSt.get_set_other (ne_of_isTemp (I.created q hq) hdT).symm]
      by_cases hqs : q = src
      · rw [hqs]; exact FSt.get_remove_same fs src
      · rw [FSt.get_remove_other hqs]; exact I.dead q hq (fun hl => hqs (hnl hl))
    · exact I.fresh
    · rintro s d (hsd | ⟨rfl, rfl⟩)
      · obtain ⟨h1, h2, h3, h4, h5⟩ := I.ren s d hsd
        refine ⟨h1, .inr h2, h3, fun hh => absurd hh h4, ?_⟩
        rw [FSt.get_set_other (fun hh : d = dst => hnr (hh ▸ h2)), FSt.get_remove_other (ne_of_isTemp hT h1)]
        exact h5
      · exact ⟨hdT, .inl rfl, hsc, fun _ => rfl, FSt.get_set_same _ _ _⟩
    · rintro d hd ⟨hne, hnr'⟩
      rw [FSt.get_set_other hne, FSt.get_remove_other (ne_of_isTemp hT hd)]
      exact I.untouched d hd hnr'
    · rintro d (rfl | hd)
      · exact ⟨src, .inr ⟨rfl, rfl⟩⟩
      · obtain ⟨s, hs⟩ := I.finals d hd
        exact ⟨s, .inl hs⟩
    · rintro s (hs | ⟨-, hs⟩)
      · rw [I.entryDone s hs] at hed; cases hed
      · simp [hs]
  | unlink p =>
    obtain ⟨hlive, rfl⟩ := discStep_unlink h
    have hT := I.created p (I.live p hlive).1
    refine ⟨?_, I.created, ?_, ?_, ?_, ?_, ?_, ?_⟩ <;>
      simp only [allWritesTo_snoc, renamesOf_snoc, FSt.apply, List.mem_filter, bne_iff_ne, ne_eq, not_and,
        Classical.not_not]
    · rintro q ⟨hq, hqp⟩
      obtain ⟨hc, hg⟩ := I.live q hq
      exact ⟨hc, by rw [FSt.get_remove_other hqp, hg]⟩
    · intro q hq hnl
      by_cases hqs : q = p
      · rw [hqs]; exact FSt.get_remove_same fs p
      · rw [FSt.get_remove_other hqs]; exact I.dead q hq (fun hl => hqs (hnl hl))
    · exact I.fresh
    · intro s d hsd
      obtain ⟨h1, h2, h3, h4, h5⟩ := I.ren s d hsd
      exact ⟨h1, h2, h3, fun hh => absurd hh h4, by rw [FSt.get_remove_other (ne_of_isTemp hT h1)]; exact h5⟩
    · intro d hd hnr
      rw [FSt.get_remove_other (ne_of_isTemp hT hd)]; exact I.untouched d hd hnr
    · exact I.finals
    · exact I.entryDone

theorem fsInv_of_discRun {t : List FsOp} {ds : DiscSt}
    (h : discRun isTemp entry oldPaths ⟨[], [], [], false⟩ t = some ds) :
    FsInv isTemp entry old t ds (old.run t) := by
  apply discRun_isRun.trace_inv h
  · exact fsInv_init
  · intro pre ds op ds' I hs
    rw [FSt.run_append]
    exact fsInv_step I hs

/-! No hypothesis such as `∀ p ∈ oldPaths, isTemp p = false`, `isTemp entry = false` or `oldPaths.Nodup` is
needed below: in this model `create` truncates, and a rename onto `entry` is only accepted when
`isTemp entry = false`.  Nor does anything depend on the third argument of `Discipline` being the paths of
`old`; the theorems say `old.files.map (·.1)` because that is the intended reading. -/

theorem discipline_at (hd : Discipline isTemp entry (old.files.map (·.1)) t = true) (k : Nat) :
    ∃ ds dsf, discRun isTemp entry (old.files.map (·.1)) ⟨[], [], [], false⟩ (t.take k) = some ds ∧
      discRun isTemp entry (old.files.map (·.1)) ds (t.drop k) = some dsf ∧
      FsInv isTemp entry old (t.take k) ds (old.run (t.take k)) := by
  obtain ⟨dsf, hf⟩ := discipline_iff.mp hd
  obtain ⟨ds, h1, h2⟩ := discRun_isRun.split hf k
  exact ⟨ds, dsf, h1, h2, fsInv_of_discRun h1⟩

theorem renamed_complete
    (hd : Discipline isTemp entry (old.files.map (·.1)) t = true) (k : Nat) (src dst : FPath)
    (h : (src, dst) ∈ renamesOf (t.take k)) :
    allWritesTo src (t.take k) = allWritesTo src t ∧
      (old.run (t.take k)).get dst = some (allWritesTo src t) := by
  obtain ⟨ds, dsf, _, h2, I⟩ := discipline_at hd k
  obtain ⟨_, _, hc, hl, hg⟩ := I.ren src dst h
  have hw := ((discRun_suffix h2).2.2.1 src hc hl).2
  have : allWritesTo src (t.take k) = allWritesTo src t := by
    conv => rhs; rw [← List.take_append_drop k t, allWritesTo_append, hw, List.append_nil]
  exact ⟨this, this ▸ hg⟩

theorem atomic_final (hd : Discipline isTemp entry (old.files.map (·.1)) t = true)
    (k : Nat) (d : FPath) (hdt : isTemp d = false) :
    (old.run (t.take k)).get d = old.get d ∨
      ∃ src, (src, d) ∈ renamesOf (t.take k) ∧
        (old.run (t.take k)).get d = some (allWritesTo src t) := by
  obtain ⟨ds, dsf, _, _, I⟩ := discipline_at hd k
  by_cases hr : d ∈ ds.renamedFinals
  · obtain ⟨src, hs⟩ := I.finals d hr
    exact .inr ⟨src, hs, (renamed_complete hd k src d hs).2⟩
  · exact .inl (I.untouched d hdt hr)

theorem entry_last (hd : Discipline isTemp entry (old.files.map (·.1)) t = true)
    (k : Nat) (src : FPath) (h : (src, entry) ∈ renamesOf (t.take k)) :
    ∀ s' d', (s', d') ∈ renamesOf t →
      (s', d') ∈ renamesOf (t.take k) ∧
        (old.run (t.take k)).get d' = some (allWritesTo s' t) := by
  intro s' d' hsd
  obtain ⟨ds, dsf, _, h2, I⟩ := discipline_at hd k
  have hnone := ((discRun_suffix h2).2.2.2 (I.entryDone src h)).2
  rw [← List.take_append_drop k t, renamesOf_append, hnone, List.append_nil] at hsd
  exact ⟨hsd, (renamed_complete hd k s' d' hsd).2⟩

/-! `renamed_not_temp`, `rename_target_unique`, `write_is_temp` and `temp_content` below are consequences of
`FsInv` stated for their own sake: nothing in the development uses them. -/

/-- every rename of a disciplined trace goes from a temporary to a non-temporary path (so
    `isTemp entry = false` follows from the entry-point being renamed; no hypothesis needed) -/
theorem renamed_not_temp (hd : Discipline isTemp entry (old.files.map (·.1)) t = true)
    (s d : FPath) (h : (s, d) ∈ renamesOf t) : isTemp d = false ∧ isTemp s = true := by
  obtain ⟨ds, hf⟩ := discipline_iff.mp hd
  have I : FsInv isTemp entry old t ds (old.run t) := fsInv_of_discRun hf
  obtain ⟨h1, _, h3, _, _⟩ := I.ren s d h
  exact ⟨h1, I.created s h3⟩

/-- two renames onto the same final path carry the same complete content (the checker in fact
    rejects a second rename onto `d`; this is the consequence relevant to `atomic_final`: the
    content found at `d` does not depend on the choice of `src`) -/
theorem rename_target_unique (hd : Discipline isTemp entry (old.files.map (·.1)) t = true)
    (k : Nat) (s₁ s₂ d : FPath) (h₁ : (s₁, d) ∈ renamesOf (t.take k))
    (h₂ : (s₂, d) ∈ renamesOf (t.take k)) : allWritesTo s₁ t = allWritesTo s₂ t :=
  Option.some.inj ((renamed_complete hd k s₁ d h₁).2.symm.trans (renamed_complete hd k s₂ d h₂).2)

theorem writes_before_rename (hd : Discipline isTemp entry (old.files.map (·.1)) t = true) :
    ∀ (i j : Nat) (src dst : FPath) (tok : Nat),
      t[i]? = some (FsOp.rename src dst) → t[j]? = some (FsOp.write src tok) → j < i := by
  intro i j src dst tok hi hj
  -- after the rename at `i`, i.e. from `take (i + 1)` on, `src` is complete
  have hmem : (src, dst) ∈ renamesOf (t.take (i + 1)) := by
    rw [List.take_add_one, hi, Option.toList_some, renamesOf_snoc]
    exact List.mem_append_right _ List.mem_cons_self
  have hall := (renamed_complete hd (i + 1) src dst hmem).1
  rw [List.take_add_one, hi, Option.toList_some, allWritesTo_snoc] at hall
  -- so nothing from position `i` on writes to it
  have hnil : allWritesTo src (t.drop i) = [] := by
    have := allWritesTo_append src (t.take i) (t.drop i)
    rw [List.take_append_drop, ← hall] at this
    exact List.self_eq_append_right.mp this
  apply Nat.lt_of_not_le
  intro hij
  have : FsOp.write src tok ∈ t.drop i :=
    List.mem_of_getElem? (i := j - i) (by rw [List.getElem?_drop, Nat.add_sub_cancel' hij]; exact hj)
  rw [← mem_allWritesTo, hnil] at this
  cases this

/-- writes only ever touch temporaries of this run (the written path satisfies `isTemp`, is live
    at that point, hence is never a final path) -/
theorem write_is_temp (hd : Discipline isTemp entry (old.files.map (·.1)) t = true)
    (j : Nat) (p : FPath) (tok : Nat) (hj : t[j]? = some (.write p tok)) : isTemp p = true := by
  obtain ⟨ds, dsf, _, h2, I⟩ := discipline_at hd j
  obtain ⟨hlt, hj'⟩ := List.getElem?_eq_some_iff.mp hj
  rw [List.drop_eq_getElem_cons hlt, hj'] at h2
  obtain ⟨s1, h3, _⟩ := discRun_cons h2
  exact I.created p (I.live p (discStep_write h3).1).1

theorem temp_content (_hd : Discipline isTemp entry (old.files.map (·.1)) t = true) (k : Nat)
    (ds : DiscSt)
    (hk : discRun isTemp entry (old.files.map (·.1)) ⟨[], [], [], false⟩ (t.take k) = some ds) :
    ∀ p, p ∈ ds.live →
      isTemp p = true ∧ (old.run (t.take k)).get p = some (allWritesTo p (t.take k)) := by
  intro p hp
  have I : FsInv isTemp entry old (t.take k) ds (old.run (t.take k)) := fsInv_of_discRun hk
  obtain ⟨hc, hg⟩ := I.live p hp
  exact ⟨I.created p hc, hg⟩

/-- `hrun` gives `_hd`, and `p ∈ dsf.created` gives `isTemp p = true`; the statement is `c09_error_return_clean`'s -/
theorem no_stray_temps (_hd : Discipline isTemp entry (old.files.map (·.1)) t = true)
    (dsf : DiscSt)
    (hrun : discRun isTemp entry (old.files.map (·.1)) ⟨[], [], [], false⟩ t = some dsf)
    (hfin : dsf.live = []) :
    ∀ p, isTemp p = true → p ∈ dsf.created → (old.run t).get p = none := by
  intro p _ hp
  have I : FsInv isTemp entry old t dsf (old.run t) := fsInv_of_discRun hrun
  exact I.dead p hp (by rw [hfin]; simp)

/-- so `no_stray_temps` covers every file the run created -/
theorem created_of_create (dsf : DiscSt)
    (hrun : discRun isTemp entry (old.files.map (·.1)) ⟨[], [], [], false⟩ t = some dsf) :
    ∀ p, FsOp.create p ∈ t → p ∈ dsf.created ∧ isTemp p = true := by
  intro p hp
  have I : FsInv isTemp entry old t dsf (old.run t) := fsInv_of_discRun hrun
  have := (discRun_suffix hrun).2.1 p hp
  exact ⟨this, I.created p this⟩

def exIsTemp : FPath → Bool := fun p => p.startsWith ".tmp"

def exTrace : List FsOp :=
  [.create ".tmpA", .write ".tmpA" 1, .write ".tmpA" 2, .rename ".tmpA" "out.jbkc",
   .create ".tmpB", .write ".tmpB" 3, .rename ".tmpB" "out.jbk"]

/-- the same operations with the entry-point renamed first -/
def exTraceBad : List FsOp :=
  [.create ".tmpA", .write ".tmpA" 1, .write ".tmpA" 2,
   .create ".tmpB", .write ".tmpB" 3, .rename ".tmpB" "out.jbk", .rename ".tmpA" "out.jbkc"]

/-- by `simp`: `String.startsWith` does not evaluate in the kernel, so `decide` cannot run the checker on
    these names by itself -/
theorem exIsTemp_names : exIsTemp ".tmpA" = true ∧ exIsTemp ".tmpB" = true ∧
    exIsTemp "out.jbk" = false ∧ exIsTemp "out.jbkc" = false := by
  simp [exIsTemp]

/-- the example trace is accepted (no pre-existing path) -/
theorem exTrace_disciplined : Discipline exIsTemp "out.jbk" [] exTrace = true := by
  obtain ⟨h1, h2, h3, h4⟩ := exIsTemp_names
  simp only [Discipline, discRun, discStep, exTrace, h1, h2, h3, h4]
  decide

/-- renaming the entry-point first is rejected -/
theorem exTraceBad_rejected : Discipline exIsTemp "out.jbk" [] exTraceBad = false := by
  obtain ⟨h1, h2, h3, h4⟩ := exIsTemp_names
  simp only [Discipline, discRun, discStep, exTraceBad, h1, h2, h3, h4]
  decide

/-- so the main theorems apply to it: at every crash point `out.jbk` is absent or complete -/
example (k : Nat) :
    ((FSt.mk []).run (exTrace.take k)).get "out.jbk" = none ∨
      ((FSt.mk []).run (exTrace.take k)).get "out.jbk" = some [3] := by
  rcases atomic_final (old := FSt.mk []) exTrace_disciplined k "out.jbk" exIsTemp_names.2.2.1 with h | ⟨src, hs, h⟩
  · exact .inl h
  · -- the only rename onto `out.jbk` in the trace is that of `.tmpB`
    have hs' : FsOp.rename src "out.jbk" ∈ exTrace :=
      List.mem_of_mem_take (mem_renamesOf.mp hs)
    simp [exTrace] at hs'
    subst hs'
    exact .inr h

end Jubako
