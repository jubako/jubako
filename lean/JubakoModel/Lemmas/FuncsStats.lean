/-
Ties of the column statistics of the schema (`creator/directory_pack/schema/property.rs`) to the Rust bodies
translated from the source on every run (Generated/FuncsStats.lean).

The translation of `PropertySize::process` and `Property::process` drops their `assert!`s (`ignore_macros` in
tools/extract_funcs.py): `assert!(*size >= needed_bytes(v))` and, for arrays, `assert!(array_size <= 0x00FFFFFF)`.
That `process` answers `some` is a statement about the translated bodies.
-/
import JubakoModel.Model.DirWriter
import JubakoModel.Generated.FuncsStats
import JubakoModel.Lemmas.FuncsBytes
import JubakoModel.Lemmas.FuncsDir

namespace Jubako

open Generated in
theorem valueCounter_fold_many (xs : List Int) : xs.foldl valueCounterProcess SrcCounter.many = SrcCounter.many := by
  induction xs with
  | nil => rfl
  | cons x xs ih => simpa [List.foldl_cons, valueCounterProcess] using ih

open Generated in
theorem valueCounter_fold_one (x : Int) (xs : List Int) :
    xs.foldl valueCounterProcess (SrcCounter.one x) = if xs.all (· = x) then SrcCounter.one x else SrcCounter.many := by
  induction xs with
  | nil => simp
  | cons y ys ih =>
    simp only [List.foldl_cons, List.all_cons]
    by_cases h : y = x
    · subst h
      simp [valueCounterProcess, ih]
    · have hne : x ≠ y := fun e => h e.symm
      simp [valueCounterProcess, hne, h, valueCounter_fold_many]

/-- `ValueCounter::process` over a column, then `Option::from` -/
theorem gen_valueCounter (col : List Int) :
    Generated.valueCounterDefault (col.foldl Generated.valueCounterProcess Generated.SrcCounter.none) = constantOf col := by
  cases col with
  | nil => rfl
  | cons x xs =>
    simp only [List.foldl_cons]
    have h0 : Generated.valueCounterProcess Generated.SrcCounter.none x = Generated.SrcCounter.one x := rfl
    rw [h0, valueCounter_fold_one, constantOf]
    by_cases h : xs.all (· = x) <;> simp [h, Generated.valueCounterDefault]

theorem propertySize_fold (col : List Nat) (m : Nat) :
    (col.map (fun (v : Nat) => (v : Int))).foldl Generated.propertySizeProcess (Generated.SrcSize.auto (m : Int)) =
      Generated.SrcSize.auto ((col.foldl max m : Nat) : Int) := by
  induction col generalizing m with
  | nil => rfl
  | cons v vs ih =>
    simp only [List.map_cons, List.foldl_cons]
    have : Generated.propertySizeProcess (Generated.SrcSize.auto (m : Int)) (v : Int) =
        Generated.SrcSize.auto ((max m v : Nat) : Int) := by
      simp [Generated.propertySizeProcess, ← Lean.Omega.Int.ofNat_max]
    rw [this, ih]

theorem size_fold_int (col : List Int) (sz : Generated.SrcSize) (f : Int → Int) :
    (col.map f).foldl Generated.propertySizeProcess sz = col.foldl (fun a v => Generated.propertySizeProcess a (f v)) sz :=
  List.foldl_map

/-- `PropertySize::process` over a column, then `ByteSize::from` -/
theorem gen_propertySize (col : List Nat) :
    Generated.propertySizeBytes ((col.map (fun (v : Nat) => (v : Int))).foldl Generated.propertySizeProcess (Generated.SrcSize.auto 0)) =
      neededBytes (listMax col) := by
  have h := propertySize_fold col 0
  simp only [Int.natCast_zero] at h
  rw [h]
  simp [Generated.propertySizeBytes, gen_neededBytes, listMax]

/-! ### `Property::process` over a column, then `Property::finalize`, is `finalizeProp`, kind by kind -/

/-- `process` for every value of a column, in order; `none` = the source panics on a value whose type does not
    correspond to the property (its `assert!`s are not translated) -/
def processColumn (p : Generated.SrcSchemaProp) : List Generated.SrcValue → Option Generated.SrcSchemaProp
  | [] => some p
  | v :: vs => (Generated.schemaPropertyProcess p v).bind (fun p' => processColumn p' vs)

/-- `P l` is the schema property after the values `l` of the column have been processed, its counter and sizes
    written as folds over `l` -/
theorem processColumn_eq {ι : Type} (val : ι → Generated.SrcValue) (P : List ι → Generated.SrcSchemaProp)
    (h : ∀ l x, Generated.schemaPropertyProcess (P l) (val x) = some (P (l ++ [x]))) (col : List ι) :
    processColumn (P []) (col.map val) = some (P col) := by
  suffices ∀ pre, processColumn (P pre) (col.map val) = some (P (pre ++ col)) from this []
  induction col with
  | nil => intro pre; rw [List.append_nil]; rfl
  | cons x xs ih =>
    intro pre
    rw [List.map_cons, processColumn, h, Option.bind_some, ih, List.append_assoc, List.singleton_append]

theorem constantOf_cast (col : List Nat) :
    (constantOf (col.map (fun (v : Nat) => (v : Int)))).map Int.toNat = constantOf col := by
  cases col with
  | nil => rfl
  | cons x xs =>
    simp only [List.map_cons, constantOf]
    have : (xs.map (fun (v : Nat) => (v : Int))).all (· = (x : Int)) = xs.all (· = x) := by
      simp only [List.all_map, Function.comp_def, Int.ofNat_inj]
    rw [this]
    by_cases h : xs.all (· = x) <;> simp [h]

theorem gen_finalize_uint (stores : List VStore) (keySize : Nat → Nat) (name : Bytes) (col : List Val) :
    ∃ p', processColumn (.unsignedInt .none (.auto 0) name) (col.map (fun v => Generated.SrcValue.unsigned (uintOf v : Int))) = some p' ∧
      (finalizeProp stores ⟨name, .uint⟩ col).toSrc = some (Generated.schemaPropertyFinalize keySize p') := by
  refine ⟨_, processColumn_eq (fun v => .unsigned (uintOf v : Int))
    (fun l => .unsignedInt (((l.map uintOf).map (fun (v : Nat) => (v : Int))).foldl Generated.valueCounterProcess .none)
      (((l.map uintOf).map (fun (v : Nat) => (v : Int))).foldl Generated.propertySizeProcess (.auto 0)) name)
    (fun l x => by simp only [List.map_append, List.foldl_append]; rfl) col, ?_⟩
  simp only [Generated.schemaPropertyFinalize, gen_valueCounter, gen_propertySize, constantOf_cast]
  unfold finalizeProp
  cases constantOf (col.map uintOf) <;> simp [RawProp.toSrc]

/-- values within `i64`: the width comes from the translated `signed_size_key` -/
theorem gen_finalize_sint (stores : List VStore) (keySize : Nat → Nat) (name : Bytes) (col : List Val)
    (hrange : ∀ v ∈ col, -(2 : Int) ^ 63 ≤ sintOf v ∧ sintOf v < (2 : Int) ^ 63) :
    ∃ p', processColumn (.signedInt .none (.auto 0) name) (col.map (fun v => Generated.SrcValue.signed (sintOf v))) = some p' ∧
      (finalizeProp stores ⟨name, .sint⟩ col).toSrc = some (Generated.schemaPropertyFinalize keySize p') := by
  refine ⟨_, processColumn_eq (fun v => .signed (sintOf v))
    (fun l => .signedInt ((l.map sintOf).foldl Generated.valueCounterProcess .none)
      (((l.map sintOf).map Generated.signedSizeKey).foldl Generated.propertySizeProcess (.auto 0)) name)
    (fun l x => by simp only [List.map_append, List.foldl_append]; rfl) col, ?_⟩
  have hkeys : (col.map sintOf).map Generated.signedSizeKey =
      (col.map (fun v => signedSizeKey (sintOf v))).map (fun (n : Nat) => (n : Int)) := by
    simp only [List.map_map]
    apply List.map_congr_left
    intro v hv
    obtain ⟨h1, h2⟩ := hrange v hv
    simp [gen_signedSizeKey (sintOf v) h1 h2]
  simp only [Generated.schemaPropertyFinalize, gen_valueCounter, hkeys, gen_propertySize]
  unfold finalizeProp
  cases constantOf (col.map sintOf) <;> simp [RawProp.toSrc]

theorem gen_finalize_content (stores : List VStore) (keySize : Nat → Nat) (name : Bytes) (col : List Val) :
    ∃ p', processColumn (.contentAddress .none (.auto 0) (.auto 0) name)
        (col.map (fun v => Generated.SrcValue.content ((packOf v : Int), (cidOf v : Int)))) = some p' ∧
      (finalizeProp stores ⟨name, .content⟩ col).toSrc = some (Generated.schemaPropertyFinalize keySize p') := by
  refine ⟨_, processColumn_eq (fun v => .content ((packOf v : Int), (cidOf v : Int)))
    (fun l => .contentAddress (((l.map packOf).map (fun (n : Nat) => (n : Int))).foldl Generated.valueCounterProcess .none)
      (((l.map packOf).map (fun (n : Nat) => (n : Int))).foldl Generated.propertySizeProcess (.auto 0))
      (((l.map cidOf).map (fun (n : Nat) => (n : Int))).foldl Generated.propertySizeProcess (.auto 0)) name)
    (fun l x => by simp only [List.map_append, List.foldl_append]; rfl) col, ?_⟩
  simp only [Generated.schemaPropertyFinalize, gen_valueCounter, gen_propertySize, constantOf_cast]
  unfold finalizeProp
  cases constantOf (col.map packOf) <;> simp [RawProp.toSrc]

/-- not the indirect-array case (`hind`); no bound on the array lengths appears because the source's
    `assert!(array_size <= 0x00FFFFFF)` is not translated -/
theorem gen_finalize_array (stores : List VStore) (name : Bytes) (fixed st : Nat) (col : List Val)
    (hf : fixed < 256) (hind : ¬ (fixed = 0 ∧ (stores.getD st ⟨false, []⟩).indexed)) :
    ∃ p', processColumn (.array (.auto 0) fixed st name)
        (col.map (fun v => Generated.SrcValue.array (((arrayOf v).length : Nat) : Int))) = some p' ∧
      (finalizeProp stores ⟨name, .array fixed st⟩ col).toSrc =
        some (Generated.schemaPropertyFinalize (fun s => (stores.getD s ⟨false, []⟩).keySize) p') := by
  refine ⟨_, processColumn_eq (fun v => .array (((arrayOf v).length : Nat) : Int))
    (fun l => .array (((l.map (fun v => (arrayOf v).length)).map (fun (n : Nat) => (n : Int))).foldl
      Generated.propertySizeProcess (.auto 0)) fixed st name)
    (fun l x => by simp only [List.map_append, List.foldl_append]; rfl) col, ?_⟩
  simp only [Generated.schemaPropertyFinalize, gen_propertySize]
  unfold finalizeProp
  simp only []
  rw [if_neg hind]
  simp [RawProp.toSrc, Nat.mod_eq_of_lt hf]

end Jubako
