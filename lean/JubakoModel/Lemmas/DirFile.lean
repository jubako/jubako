/-
**File-level round trip of the directory pack** (C02, feeding C03/C15): decoding entry `i` from the
bytes `dirPackWrite` produces returns the values of the `i`-th entry handed to the writer;
`DirIn.entries` is the stored order.  The readers are stated on a file known by its blocks
(`DirIn.Blocks`), then on the written file.
-/
import JubakoModel.Lemmas.DirFileSchema
import JubakoModel.Lemmas.DirFileWrite

namespace Jubako

/-- The model functions the correspondence check runs for `dp.decode` (`Driver.decodeDirPack` and
    `Driver.dirDumpLine`, `Driver/OpsDir.lean`), composed for one entry as `dirDumpLine` composes
    them for the entries of every index window; no lemma relates the two compositions. -/
def dirGetEntry (f : Bytes) (si gi : Nat) : Outcome EntryVal := do
  let (_, dh) ← directoryOpen f
  let vt ← readBlock f dh.valueStorePtrPos (8 * dh.valueStoreCount)
  let et ← readBlock f dh.entryStorePtrPos (8 * dh.entryStoreCount)
  let getVS : Nat → Outcome (ValueStoreTail × Bytes) := fun k =>
    if k < dh.valueStoreCount then valueStoreOpen f (sizedOffsetDecode (slice vt (8 * k) 8))
    else .panic "cache.rs: value store index out of bounds"
  if si < dh.entryStoreCount then do
    let (l, data) ← entryStoreOpen f (sizedOffsetDecode (slice et (8 * si) 8))
    if gi < l.entryCount then
      let stride := if l.checked then l.entrySize + 4 else l.entrySize
      decodeEntry getVS l (slice data (gi * stride) l.entrySize)
    else .err .other
  else .panic "store index out of bounds"

/-- the `getVS` of `dirGetEntry`, named -/
def dirGetVS (f : Bytes) (n : Nat) (vt : Bytes) (k : Nat) : Outcome (ValueStoreTail × Bytes) :=
  if k < n then valueStoreOpen f (sizedOffsetDecode (slice vt (8 * k) 8))
  else .panic "cache.rs: value store index out of bounds"

theorem dirGetEntry_of_open {f : Bytes} {h : PackHeader} {dh : DirectoryHeader} {vt et : Bytes}
    {l : Layout} {data : Bytes} {si : Nat} (gi : Nat)
    (ho : directoryOpen f = .ok (h, dh))
    (hvt : readBlock f dh.valueStorePtrPos (8 * dh.valueStoreCount) = .ok vt)
    (het : readBlock f dh.entryStorePtrPos (8 * dh.entryStoreCount) = .ok et)
    (hsi : si < dh.entryStoreCount)
    (hes : entryStoreOpen f (sizedOffsetDecode (slice et (8 * si) 8)) = .ok (l, data)) :
    dirGetEntry f si gi =
      if gi < l.entryCount then
        decodeEntry (dirGetVS f dh.valueStoreCount vt) l
          (slice data (gi * (if l.checked then l.entrySize + 4 else l.entrySize)) l.entrySize)
      else .err .other := by
  simp only [dirGetEntry, ho, hvt, het, hsi, hes, Outcome.ok_bind, if_true]
  rfl

/-- an entry store as the creator writes it: tail kind 0, no per-entry CRC -/
theorem entryStoreOpen_of_blocks {f data t lb : Bytes} {p q : Nat} {l : Layout}
    (hd : readBlock f p data.length = .ok data) (ht : readBlock f q t.length = .ok t)
    (hq : q = p + (block data).length) (htl : t = 0 :: lb)
    (hl : Layout.decode lb = .ok l) (hck : l.checked = false)
    (hsz : l.entryCount * l.entrySize = data.length) :
    entryStoreOpen f (q, t.length) = .ok (l, data) := by
  have h01 : ¬ ((0 : UInt8) = 1 ∨ (0 : UInt8) = 2) := by decide
  subst htl
  rw [block_length] at hq
  unfold entryStoreOpen
  simp only [ht, Outcome.ok_bind, h01, if_false, ne_eq, not_true_eq_false, hl, hck,
    Bool.false_eq_true, hsz]
  rw [if_neg (by omega), show q - data.length - 4 = p by omega, hd]
  rfl

theorem DirIn.serializeEntry_length (d : DirIn) (hwf : d.WF) (hk : d.KeysOk) (e : EntryIn)
    (he : e ∈ d.entries) : (serializeEntry d.stores d.layout e).length = d.entrySize := by
  have hewf := hwf.entries e he
  have hcw : ∀ p ∈ d.common, p.Writable := fun p hp => (d.common_writable hwf hk p hp).1
  rw [d.layout_eq]
  cases hv : e.variant with
  | none =>
    have hnov : d.schema.variants = [] := hewf.variants_nil hv
    simp only [serializeEntry, hv]
    rw [serializeProps_length _ _ _ _ hcw]
    simp [DirIn.entrySize, hnov]
  | some vi =>
    have hvil : vi < d.vars.length := by rw [d.vars_length]; exact hewf.variant_lt hv
    have hmem : d.vars[vi] ∈ d.vars := List.getElem_mem _
    obtain ⟨-, hbw, hbs⟩ := d.vars_writable hwf hk _ hmem
    have hgv : (rawVariants d.vars).getD vi [] = vidProp d.vars[vi].1 :: d.vars[vi].2 := by
      simp only [rawVariants, List.getD_eq_getElem?_getD, List.getElem?_map,
        List.getElem?_eq_getElem hvil]
      rfl
    simp only [serializeEntry, hv]
    rw [serializeProps_length, hgv, propsSize_append, propsSize_cons]
    · show propsSize d.common + (1 + propsSize d.vars[vi].2) = d.entrySize
      omega
    · intro p hp
      rw [hgv] at hp
      rcases List.mem_append.1 hp with hp | hp
      · exact hcw p hp
      · rcases List.mem_cons.1 hp with rfl | hp
        · exact ⟨(d.vars_writable hwf hk _ hmem).1, rfl⟩
        · exact (hbw p hp).1

theorem DirIn.entryBytes_spec (d : DirIn) (hwf : d.WF) (hk : d.KeysOk) :
    d.entryBytes.length = d.entries.length * d.entrySize ∧
    ∀ i (hi : i < d.entries.length),
      slice d.entryBytes (i * d.entrySize) d.entrySize =
        serializeEntry d.stores d.layout d.entries[i] :=
  ⟨flatten_fixed_length_mem _ _ _ (d.serializeEntry_length hwf hk),
   fun i hi => slice_flatten_fixed_mem _ _ _ (d.serializeEntry_length hwf hk) i hi⟩

/-- Size limits of the format:
    * `vendor`, `uuid`, `freeData` — fixed-size fields of the two headers (4, 16, 24 bytes);
    * `entryCount` — the entry count of an entry store is a `u32` of the layout header;
    * `indexCount` — the index count is a `u32` of the directory pack header;
    * `entrySize` — the entry size is a `u16` of the layout header;
    * `propCount` — the property count of a layout (all variants, with their `VariantId` and
      padding properties) is one byte;
    * `storeTails`, `entryTail` — a `SizedOffset` keeps 16 bits for the size of the tail it points
      to (65535-byte limit of value-store tails — hence at most 65535/width values in an indexed
      store — and of the layout header);
    * `fileSize` — a `SizedOffset` keeps 48 bits for the offset: every tail must sit below 2^48. -/
structure DirIn.Limits (d : DirIn) (H : Bytes → Bytes) (vendor uuid freeData : Bytes) : Prop where
  vendorLen : vendor.length = 4
  uuidLen : uuid.length = 16
  freeDataLen : freeData.length = 24
  entryCount : d.entries.length < 2 ^ 32
  indexCount : d.indexes.length < 2 ^ 32
  entrySize : d.layout.entrySize < 2 ^ 16
  propCount : (d.layout.common ++ d.layout.variants.flatten).length < 256
  storeTails : ∀ s ∈ d.stores, s.tailBytes.length < 2 ^ 16
  entryTail : (entryStoreTail d.layout d.entries.length).length < 2 ^ 16
  fileSize : (dirPackWrite H vendor uuid freeData d).length < 2 ^ 48

namespace DirIn.Blocks

variable {d : DirIn} {vendor uuid freeData f : Bytes} (B : d.Blocks vendor uuid freeData f)
include B

/-- `hsize`: a `SizedOffset` keeps 6 bytes for the offset -/
theorem storeAt (htails : ∀ s ∈ d.stores, s.tailBytes.length < 2 ^ 16) (hsize : f.length < 2 ^ 48)
    (k : Nat) (hk : k < d.stores.length) : ∃ p,
    sizedOffsetDecode (slice d.t2 (8 * k) 8) =
      (p + d.stores[k].dataSize + 4, d.stores[k].tailBytes.length) ∧
    readBlock f p d.stores[k].dataSize = .ok d.stores[k].data ∧
    readBlock f (p + d.stores[k].dataSize + 4) d.stores[k].tailBytes.length =
      .ok d.stores[k].tailBytes ∧ d.stores[k].dataSize < 2 ^ 48 := by
  obtain ⟨p, hso, hd, ht⟩ := B.store k hk
  have hb := readBlock_bounds ht
  refine ⟨p, ?_, hd, ht, by omega⟩
  rw [DirIn.t2, soTable_slice _ k _ hso]
  exact sizedOffset_roundtrip _ _ (by omega) (htails _ (List.getElem_mem hk))

/-- an id is a rank below the number of values, which the tail lists, or an offset into the data,
    which lies in the file -/
theorem keysOk (htails : ∀ s ∈ d.stores, s.tailBytes.length < 2 ^ 16) (hsize : f.length < 2 ^ 48) :
    d.KeysOk := by
  intro st hst
  obtain ⟨p, -, -, -, hds⟩ := B.storeAt htails hsize st hst
  rw [getD_of_lt _ _ _ hst]
  have hsm : d.stores[st] ∈ d.stores := List.getElem_mem _
  unfold VStore.keySize
  split
  · rename_i hi
    have := VStore.values_length_le_tail _ hi
    have := htails _ hsm
    exact neededBytes_min _ 7 (by omega) (by omega)
  · exact neededBytes_min _ 7 (by omega) (by omega)

theorem storesAgree (htails : ∀ s ∈ d.stores, s.tailBytes.length < 2 ^ 16)
    (hsize : f.length < 2 ^ 48) : StoresAgree d.stores (dirGetVS f d.stores.length d.t2) := by
  intro k hk
  obtain ⟨p, hso, hd, ht, hds⟩ := B.storeAt htails hsize k hk
  simp only [dirGetVS, hk, if_true]
  rw [hso, getD_of_lt _ _ _ hk]
  refine valueStoreOpen_of_blocks _ p hd ht (fun hi => ?_) (by omega)
  have := VStore.values_length_le_tail _ hi
  have := htails _ (List.getElem_mem hk)
  omega

theorem entrySO (htl : d.esTail.length < 2 ^ 16) (hsize : f.length < 2 ^ 48) :
    sizedOffsetDecode (slice d.t3 (8 * 0) 8) = (d.esPos, d.esTail.length) := by
  have := readBlock_bounds B.entryTail
  rw [DirIn.t3, soTable_slice _ 0 (d.esPos, d.esTail.length) rfl]
  exact sizedOffset_roundtrip _ _ (by omega) htl

theorem entriesOpen (hwf : d.WF) (hk : d.KeysOk) (hn : d.entries.length < 2 ^ 32)
    (hes : d.layout.entrySize < 2 ^ 16)
    (hpc : (d.layout.common ++ d.layout.variants.flatten).length < 256)
    (htl : d.esTail.length < 2 ^ 16) (hsize : f.length < 2 ^ 48) :
    entryStoreOpen f (sizedOffsetDecode (slice d.t3 (8 * 0) 8)) =
      .ok (d.readerLayout, d.entryBytes) := by
  obtain ⟨htail, hdec⟩ := d.layout_decode hwf hk hn hes hpc
  rw [B.entrySO htl hsize]
  exact entryStoreOpen_of_blocks B.entries B.entryTail rfl htail hdec rfl
    (d.entryBytes_spec hwf hk).1.symm

end DirIn.Blocks

theorem dirGetEntry_dirPackWrite_all (H : Bytes → Bytes) (vendor uuid freeData : Bytes) (d : DirIn)
    (hwf : d.WF) (hl : d.Limits H vendor uuid freeData) (i : Nat) :
    dirGetEntry (dirPackWrite H vendor uuid freeData d) 0 i =
      if h : i < d.entries.length then .ok (expectedEntry d.schema d.entries[i])
      else .err .other := by
  have B := dirPackWrite_blocks H vendor uuid freeData d hl.vendorLen hl.uuidLen hl.freeDataLen
  have hsize := hl.fileSize
  -- From here on the file is a variable, known by its blocks only.  With `dirPackWrite …` in the
  -- goal, any step the kernel checks by evaluation (a rewrite with a lemma proved by `rfl`, such
  -- as `Outcome.ok_bind`) makes it run the reader on the writer's output, symbolically.
  generalize dirPackWrite H vendor uuid freeData d = f at B hsize ⊢
  have hk := B.keysOk hl.storeTails hsize
  rw [dirGetEntry_of_open i
    (B.opens hl.vendorLen hl.uuidLen hl.freeDataLen (d.stores_length ▸ hwf.storeCount)
      hl.indexCount hsize)
    B.valueTable B.entryTable Nat.zero_lt_one
    (B.entriesOpen hwf hk hl.entryCount hl.entrySize hl.propCount hl.entryTail hsize)]
  -- `d.readerLayout.entryCount`, `.checked` (false) and `.entrySize` reduce by `rfl`, so the stride
  -- `if l.checked then … else …` of `dirGetEntry` is the entry size
  show (if i < d.entries.length then
      decodeEntry (dirGetVS f d.stores.length d.t2) d.readerLayout
        (slice d.entryBytes (i * d.entrySize) d.entrySize) else _) = _
  split
  · rename_i hi
    rw [(d.entryBytes_spec hwf hk).2 i hi]
    exact d.entry_roundtrip hwf hk (d.vars_length ▸ Nat.le_of_lt (d.vars_lt hl.propCount)) _
      (B.storesAgree hl.storeTails hsize) _ (List.getElem_mem _)
  · rfl

/-- C02's file round trip, `c02_file_roundtrip` -/
theorem dirGetEntry_dirPackWrite (H : Bytes → Bytes) (vendor uuid freeData : Bytes) (d : DirIn)
    (hwf : d.WF) (hl : d.Limits H vendor uuid freeData) (i : Nat) (hi : i < d.entries.length) :
    dirGetEntry (dirPackWrite H vendor uuid freeData d) 0 i =
      .ok (expectedEntry d.schema d.entries[i]) := by
  rw [dirGetEntry_dirPackWrite_all H vendor uuid freeData d hwf hl i, dif_pos hi]

/-- `c02_file_past_end` -/
theorem dirGetEntry_dirPackWrite_none (H : Bytes → Bytes) (vendor uuid freeData : Bytes)
    (d : DirIn) (hwf : d.WF) (hl : d.Limits H vendor uuid freeData) (i : Nat)
    (hi : d.entries.length ≤ i) :
    dirGetEntry (dirPackWrite H vendor uuid freeData d) 0 i = .err .other := by
  rw [dirGetEntry_dirPackWrite_all H vendor uuid freeData d hwf hl i, dif_neg (Nat.not_lt.2 hi)]

theorem entryStoreOpen_dirPackWrite (H : Bytes → Bytes) (vendor uuid freeData : Bytes) (d : DirIn)
    (hwf : d.WF) (hl : d.Limits H vendor uuid freeData) :
    entryStoreOpen (dirPackWrite H vendor uuid freeData d) (d.esPos, d.esTail.length) =
      .ok (d.readerLayout, d.entryBytes) := by
  have B := dirPackWrite_blocks H vendor uuid freeData d hl.vendorLen hl.uuidLen hl.freeDataLen
  have hsize := hl.fileSize
  generalize dirPackWrite H vendor uuid freeData d = f at B hsize ⊢
  rw [← B.entrySO hl.entryTail hsize]
  exact B.entriesOpen hwf (B.keysOk hl.storeTails hsize) hl.entryCount hl.entrySize hl.propCount
    hl.entryTail hsize

/-- `dirGetEntry_dirPackWrite`, for every entry at once -/
theorem dirfile_roundtrip (H : Bytes → Bytes) (vendor uuid freeData : Bytes) (d : DirIn)
    (hwf : d.WF) (hl : d.Limits H vendor uuid freeData) :
    ∀ i (hi : i < d.entries.length),
      dirGetEntry (dirPackWrite H vendor uuid freeData d) 0 i =
        .ok (expectedEntry d.schema d.entries[i]) :=
  fun i hi => dirGetEntry_dirPackWrite H vendor uuid freeData d hwf hl i hi

/-- **Indexes**: every index of the written pack reads back as store 0, the declared window
    (`offset`, `count`), key 0 and the declared name. -/
theorem dirGetIndex_dirPackWrite (H : Bytes → Bytes) (vendor uuid freeData : Bytes) (d : DirIn)
    (hv : vendor.length = 4) (hu : uuid.length = 16) (hfd : freeData.length = 24)
    (hns : d.stores.length < 256) (hni : d.indexes.length < 2 ^ 32)
    (hix : ∀ ix ∈ d.indexes, ix.WF)
    (hsize : (dirPackWrite H vendor uuid freeData d).length < 2 ^ 48)
    (k : Nat) (hk : k < d.indexes.length) :
    dirGetIndex (dirPackWrite H vendor uuid freeData d) k =
      .ok ⟨0, (d.indexes[k]).count, (d.indexes[k]).offset, zeros 4, 0, (d.indexes[k]).name⟩ := by
  have B := dirPackWrite_blocks H vendor uuid freeData d hv hu hfd
  generalize dirPackWrite H vendor uuid freeData d = f at B hsize ⊢
  obtain ⟨hw1, hw2, hw3⟩ := hix _ (List.getElem_mem hk)
  have hkt : k < d.idxTails.length := by simpa [DirIn.idxTails] using hk
  have htk : d.idxTails[k] =
      (⟨0, d.indexes[k].count, d.indexes[k].offset, zeros 4, 0, d.indexes[k].name⟩ : IndexInfo).encode := by
    simp [DirIn.idxTails]
  obtain ⟨p, hp, ht⟩ := B.indexTail k hkt
  have hb := readBlock_bounds ht
  have hso : sizedOffsetDecode (slice d.t1 (8 * k) 8) = (p, d.idxTails[k].length) := by
    rw [DirIn.t1, soTable_slice _ k _ hp]
    refine sizedOffset_roundtrip _ _ (by omega) ?_
    rw [htk]
    simp [IndexInfo.encode, leBytes_length, zeros_length, pstringEncode]
    omega
  rw [dirGetIndex_of_open (B.opens hv hu hfd hns hni hsize) B.indexTable hk hso ht, htk]
  exact IndexInfo.decode_encode _ (by show 0 < 2 ^ 32; decide) hw2 hw3 (zeros_length 4)
    (by show 0 < 256; decide) hw1

def DirIn.arrayKeys (d : DirIn) (k : Nat) : List Bytes :=
  d.entries.map (fun e => arrayOf (e.values.getD k (.u 0)))

theorem DirIn.zip_getElem?_common (d : DirIn) (hwf : d.WF) (e : EntryIn) (he : e ∈ d.entries)
    (k : Nat) (p : PropDef) (hp : d.schema.common[k]? = some p) :
    ((d.schema.propsOf e.variant).zip e.values)[k]? = some (p, e.values.getD k (.u 0)) := by
  have hkl : k < d.schema.common.length := (List.getElem?_eq_some_iff.1 hp).1
  have hkv : k < e.values.length := by
    rw [(hwf.entries e he).length, SchemaDef.propsOf.eq_def, List.length_append]; omega
  rw [List.getElem?_zip_eq_some, SchemaDef.propsOf.eq_def, List.getElem?_append_left hkl,
    List.getD_eq_getElem?_getD, List.getElem?_eq_getElem hkv]
  exact ⟨hp, rfl⟩

/-- C03's stored order at file level, `c03_file_sorted_readback` -/
theorem dirfile_sorted_readback (H : Bytes → Bytes) (vendor uuid freeData : Bytes) (d : DirIn)
    (hwf : d.WF) (hl : d.Limits H vendor uuid freeData) (k fixed st : Nat) (name : Bytes)
    (hp : d.schema.common[k]? = some ⟨name, .array fixed st⟩)
    (hchk : sortedCheck (writerArrCmp (d.stores.getD st vsDflt) fixed) (d.arrayKeys k) = true) :
    (∀ i (_hi : i < d.entries.length), ∃ ev,
      dirGetEntry (dirPackWrite H vendor uuid freeData d) 0 i = .ok ev ∧
      ev.values[k]? = some (name, .arr ((d.arrayKeys k).getD i []))) ∧
    sortedCheck lexCmp (d.arrayKeys k) = true := by
  have hpm : (⟨name, .array fixed st⟩ : PropDef) ∈ d.schema.common := List.mem_of_getElem? hp
  have hst : st < d.storeKinds.length := (hwf.common _ hpm).2.2
  constructor
  · intro i hi
    refine ⟨_, dirGetEntry_dirPackWrite H vendor uuid freeData d hwf hl i hi, ?_⟩
    have hz := d.zip_getElem?_common hwf d.entries[i] (List.getElem_mem _) k _ hp
    have h2 := (hwf.entries _ (List.getElem_mem _)).typed _ (List.mem_of_getElem? hz)
    obtain ⟨hzp, hzv⟩ := List.getElem?_zip_eq_some.1 hz
    have h1 : (expectedEntry d.schema d.entries[i]).values[k]? =
        some (name, (d.entries[i]).values.getD k (.u 0)) :=
      List.getElem?_zip_eq_some.2 ⟨by rw [List.getElem?_map, hzp]; rfl, hzv⟩
    have hk : (d.arrayKeys k).getD i [] = arrayOf ((d.entries[i]).values.getD k (.u 0)) := by
      simp [DirIn.arrayKeys, List.getD_eq_getElem?_getD, List.getElem?_map,
        List.getElem?_eq_getElem hi]
    rw [h1, hk]
    generalize (d.entries[i]).values.getD k (.u 0) = v at h2 ⊢
    cases v <;> simp only [Val.hasType] at h2
    rfl
  · rw [d.stores_getD st hst] at hchk
    refine stored_order _ _ fixed _ ?_ hchk
    intro a ha
    simp only [DirIn.arrayKeys, List.mem_map] at ha
    obtain ⟨e, he, rfl⟩ := ha
    exact mem_addedTo d.schema d.entries e he _ _
      (List.mem_of_getElem? (d.zip_getElem?_common hwf e he k _ hp)) fixed st rfl

namespace DirFileExample

def hash : Bytes → Bytes := fun _ => List.replicate 32 0
def vendor : Bytes := [1, 2, 3, 4]
def uuid : Bytes := List.replicate 16 7
def freeData : Bytes := List.replicate 24 9

def schema : SchemaDef :=
  ⟨[⟨[97], .uint⟩, ⟨[98], .sint⟩, ⟨[99], .array 2 0⟩],
   [([118, 48], [⟨[120], .uint⟩]),
    ([118, 49], [⟨[121], .array 0 1⟩, ⟨[122], .sint⟩])]⟩

def entries : List EntryIn :=
  [⟨some 0, [.u 300, .s (-129), .arr [1, 2, 3, 4, 5], .u 7]⟩,
   ⟨some 1, [.u 5, .s 128, .arr [9], .arr [10, 11], .s (-1)]⟩,
   ⟨some 1, [.u 70000, .s 0, .arr [1, 2, 3, 4, 5], .arr [], .s 5]⟩]

def input : DirIn := ⟨[false, true], schema, entries, [⟨[105], 3, 0⟩]⟩

theorem input_wf : input.WF := by decide

theorem hstores : input.stores = [⟨false, [[], [3, 4, 5]]⟩, ⟨true, [[], [10, 11]]⟩] := by decide

/-- the finalised layout: three common columns (3-byte unsigned, 2-byte signed, array with length
    byte + 2-byte inline prefix + 1-byte id into the plain store), variant 0 = one constant column
    (0 bytes) padded by 2, variant 1 = indirect array (1-byte id into the indexed store) + 1-byte
    signed -/
def layout : LayoutOut :=
  ⟨[⟨3, [97], .uint 3 none⟩, ⟨2, [98], .sint 2 none⟩, ⟨4, [99], .array (some 1) 2 (some (1, 0)) none⟩],
   [[⟨1, [118, 48], .variantId⟩, ⟨0, [120], .uint 1 (some 7)⟩, ⟨2, [], .padding⟩],
    [⟨1, [118, 49], .variantId⟩, ⟨1, [121], .array none 0 (some (1, 1)) none⟩,
     ⟨1, [122], .sint 1 none⟩]], 12⟩

theorem hlayout : input.layout = layout := by
  have hc : input.common = layout.common := by decide
  have hb : fsBodies input.stores input.schema input.entries =
      [([118, 48], [⟨0, [120], .uint 1 (some 7)⟩]),
       ([118, 49], [⟨1, [121], .array none 0 (some (1, 1)) none⟩, ⟨1, [122], .sint 1 none⟩])] := by
    decide
  have hes : input.entrySize = 12 := by decide
  have hv : input.vars =
      [([118, 48], [⟨0, [120], .uint 1 (some 7)⟩, ⟨2, [], .padding⟩]),
       ([118, 49], [⟨1, [121], .array none 0 (some (1, 1)) none⟩, ⟨1, [122], .sint 1 none⟩])] := by
    simp [DirIn.vars, hb, fsVars, fsMx, listMax, propsSize, paddingProps]
  rw [input.layout_eq, hc, hv, hes]
  rfl

theorem limits_of (H : Bytes → Bytes) (hH : ∀ x, (H x).length = 32) :
    input.Limits H vendor uuid freeData where
  vendorLen := rfl
  uuidLen := rfl
  freeDataLen := rfl
  entryCount := by decide
  indexCount := by decide
  entrySize := by rw [hlayout]; decide
  propCount := by rw [hlayout]; decide
  storeTails := by rw [hstores]; decide
  entryTail := by rw [hlayout]; decide
  fileSize := by
    rw [dirPackWrite_length_formula H vendor uuid freeData input rfl rfl rfl hH]
    simp only [DirIn.entryBytes, DirIn.esTail, hlayout, hstores]
    decide

theorem limits : input.Limits hash vendor uuid freeData := limits_of hash fun _ => List.length_replicate

example : dirGetEntry (dirPackWrite hash vendor uuid freeData input) 0 0 =
    .ok ⟨some 0, [([97], .u 300), ([98], .s (-129)), ([99], .arr [1, 2, 3, 4, 5]), ([120], .u 7)]⟩ :=
  dirGetEntry_dirPackWrite hash vendor uuid freeData input input_wf limits 0 (by decide)

example : dirGetEntry (dirPackWrite hash vendor uuid freeData input) 0 1 =
    .ok ⟨some 1, [([97], .u 5), ([98], .s 128), ([99], .arr [9]), ([121], .arr [10, 11]),
      ([122], .s (-1))]⟩ :=
  dirGetEntry_dirPackWrite hash vendor uuid freeData input input_wf limits 1 (by decide)

example : dirGetEntry (dirPackWrite hash vendor uuid freeData input) 0 2 =
    .ok ⟨some 1, [([97], .u 70000), ([98], .s 0), ([99], .arr [1, 2, 3, 4, 5]), ([121], .arr []),
      ([122], .s 5)]⟩ :=
  dirGetEntry_dirPackWrite hash vendor uuid freeData input input_wf limits 2 (by decide)

example : dirGetEntry (dirPackWrite hash vendor uuid freeData input) 0 3 = .err .other :=
  dirGetEntry_dirPackWrite_none hash vendor uuid freeData input input_wf limits 3 (by decide)

example : dirGetIndex (dirPackWrite hash vendor uuid freeData input) 0 =
    .ok ⟨0, 3, 0, [0, 0, 0, 0], 0, [105]⟩ :=
  dirGetIndex_dirPackWrite hash vendor uuid freeData input rfl rfl rfl (by decide) (by decide)
    (by decide) limits.fileSize 0 (by decide)

/-! a schema without variants (the other branch of `serializeEntry` / `decodeEntry`): a content
    address column with a constant pack id, and a signed column -/

def input2 : DirIn :=
  ⟨[], ⟨[⟨[112], .content⟩, ⟨[113], .sint⟩], []⟩,
    [⟨none, [.content 3 1000, .s (-32768)]⟩, ⟨none, [.content 3 2, .s 32767]⟩], []⟩

theorem input2_wf : input2.WF := by decide

theorem hlayout2 : input2.layout =
    ⟨[⟨2, [112], .content 1 2 (some 3)⟩, ⟨2, [113], .sint 2 none⟩], [], 4⟩ := by decide

theorem limits2 : input2.Limits hash vendor uuid freeData where
  vendorLen := rfl
  uuidLen := rfl
  freeDataLen := rfl
  entryCount := by decide
  indexCount := by decide
  entrySize := by rw [hlayout2]; decide
  propCount := by rw [hlayout2]; decide
  storeTails := by decide
  entryTail := by rw [hlayout2]; decide
  fileSize := by
    rw [dirPackWrite_length_formula hash vendor uuid freeData input2 rfl rfl rfl
      (fun _ => by simp [hash])]
    simp only [DirIn.entryBytes, DirIn.esTail, hlayout2]
    decide

example : dirGetEntry (dirPackWrite hash vendor uuid freeData input2) 0 0 =
    .ok ⟨none, [([112], .content 3 1000), ([113], .s (-32768))]⟩ :=
  dirGetEntry_dirPackWrite hash vendor uuid freeData input2 input2_wf limits2 0 (by decide)

/-! a store sorted on an array key (duplicates allowed): the keys read back in the reader's order -/

def input3 : DirIn :=
  ⟨[false], ⟨[⟨[107], .array 1 0⟩], []⟩,
    [⟨none, [.arr [1]]⟩, ⟨none, [.arr [1, 2]]⟩, ⟨none, [.arr [1, 2]]⟩, ⟨none, [.arr [2]]⟩], []⟩

theorem input3_wf : input3.WF := by decide

theorem hstores3 : input3.stores = [⟨false, [[], [2]]⟩] := by decide

theorem hlayout3 : input3.layout =
    ⟨[⟨3, [107], .array (some 1) 1 (some (1, 0)) none⟩], [], 3⟩ := by decide

theorem limits3 : input3.Limits hash vendor uuid freeData where
  vendorLen := rfl
  uuidLen := rfl
  freeDataLen := rfl
  entryCount := by decide
  indexCount := by decide
  entrySize := by rw [hlayout3]; decide
  propCount := by rw [hlayout3]; decide
  storeTails := by rw [hstores3]; decide
  entryTail := by rw [hlayout3]; decide
  fileSize := by
    rw [dirPackWrite_length_formula hash vendor uuid freeData input3 rfl rfl rfl
      (fun _ => by simp [hash])]
    simp only [DirIn.entryBytes, DirIn.esTail, hlayout3, hstores3]
    decide

example : sortedCheck lexCmp (input3.arrayKeys 0) = true :=
  (dirfile_sorted_readback hash vendor uuid freeData input3 input3_wf limits3 0 1 0 [107] rfl
    (by rw [hstores3]; decide)).2

end DirFileExample

end Jubako
