/-
The publication statements of `BasicCreator::finalize` extracted from the source on every run
(Generated/FuncsFs.lean) are the model's `finalizePublications`, the sequence its creation traces follow
(`creationTrace_renames`, Lemmas/BasicCreatorFs.lean).
-/
import JubakoModel.Model.BasicCreatorFs
import JubakoModel.Generated.FuncsFs

namespace Jubako

theorem gen_basicCreatorPublications : Generated.basicCreatorPublications = finalizePublications := rfl

end Jubako
