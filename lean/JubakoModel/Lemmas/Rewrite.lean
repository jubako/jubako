/-
Location rewrites on the bytes of a manifest (property C12), below the executable tool (Lemmas/SetLocation.lean):
a file region of 256-byte pack-info blocks (`ManifestAt`), one block re-encoded with another location
(`rewrite_one`), and histories of such steps on the list (`specStep`) and on the file (`fileStep`).
-/
import JubakoModel.Model.Pack
import JubakoModel.Lemmas.Codec
import JubakoModel.Lemmas.Mask

namespace Jubako

theorem splice_length (f : Bytes) (off : Nat) (new : Bytes) (h : off + new.length ≤ f.length) :
    (splice f off new).length = f.length := by
  simp only [splice, List.length_append, List.length_take, List.length_drop]
  omega

theorem splice_getElem?_outside (f new : Bytes) (off i : Nat) (h : off + new.length ≤ f.length)
    (hi : i < off ∨ off + new.length ≤ i) : (splice f off new)[i]? = f[i]? := by
  have ht : (f.take off ++ new).length = off + new.length := by
    rw [List.length_append, List.length_take]; omega
  rcases hi with hi | hi
  · rw [splice, List.append_assoc, List.getElem?_append_left (by rw [List.length_take]; omega),
      List.getElem?_take_of_lt hi]
  · rw [splice, List.getElem?_append_right (by omega), ht, List.getElem?_drop]
    congr 1; omega

theorem slice_splice_same (f new : Bytes) (off : Nat) (h : off + new.length ≤ f.length) :
    slice (splice f off new) off new.length = new := by
  rw [splice, List.append_assoc]
  exact slice_at (by rw [List.length_take]; omega) rfl

theorem slice_splice_disjoint (f new : Bytes) (off a len : Nat) (h : off + new.length ≤ f.length)
    (hd : a + len ≤ off ∨ off + new.length ≤ a) :
    slice (splice f off new) a len = slice f a len :=
  slice_congr fun k hk => splice_getElem?_outside f new off (a + k) h (by omega)

theorem splice_of_prefix (f new : Bytes) (off c : Nat) (hc : c ≤ new.length)
    (hp : new.take c = slice f off c) : splice f off new = splice f (off + c) (new.drop c) := by
  have e : f.take (off + c) = f.take off ++ new.take c := by rw [hp, slice, List.take_add]
  rw [splice, splice, e, List.length_drop, show off + c + (new.length - c) = off + new.length by omega]
  simp only [List.append_assoc]
  rw [← List.append_assoc (new.take c), List.take_append_drop]

theorem splice_add (file new : Bytes) (origin off : Nat) :
    splice file (origin + off) new = file.take origin ++ splice (file.drop origin) off new := by
  simp only [splice, List.take_add, List.drop_drop, Nat.add_assoc, List.append_assoc]

/-- `256` is `packInfoBlockSize` (`packInfoBlockSize_eq`), written out because here it is the length of
    `block p.encode` for a well-formed info -/
def ManifestAt (f : Bytes) (po : Nat) (infos : List PackInfo) : Prop :=
  po + infos.length * 256 ≤ f.length ∧
  ∀ k (hk : k < infos.length), slice f (po + k * 256) 256 = block (infos[k]).encode

theorem readBlock_info (f : Bytes) (base : Nat) (infos : List PackInfo)
    (hm : ManifestAt f base infos) (hw : ∀ p ∈ infos, p.WF) (k : Nat) (hk : k < infos.length) :
    readBlock f (base + k * 256) 252 = .ok (infos[k]).encode := by
  have := slot_end_le base 256 hk
  exact readBlock_of_slice (PackInfo.encode_length _ (hw _ (List.getElem_mem hk))) (hm.2 k hk)
    (by have := hm.1; omega)

def setLoc (p : PackInfo) (loc : Bytes) : PackInfo := { p with location := loc }

theorem setLoc_WF (p : PackInfo) (loc : Bytes) (hw : p.WF) (hl : loc.length ≤ Consts.locationPad) :
    (setLoc p loc).WF := by
  unfold PackInfo.WF setLoc at *; simp only; omega

theorem setLoc_fixed_prefix (p : PackInfo) (loc : Bytes) (hw : p.WF)
    (hl : loc.length ≤ Consts.locationPad) :
    (block (setLoc p loc).encode).take 38 = (block p.encode).take 38 := by
  have h1 := PackInfo.encodeFixed_length p hw
  have h2 := PackInfo.encodeFixed_length (setLoc p loc) (setLoc_WF p loc hw hl)
  have hf : (setLoc p loc).encodeFixed = p.encodeFixed := rfl
  simp only [block, PackInfo.encode, List.append_assoc]
  rw [List.take_append_of_le_length (by omega), List.take_append_of_le_length (by omega), hf]

/-- what `c12_rewrite_one` says of the file (that the re-encoded info decodes is `PackInfo.decode_encode`) -/
theorem rewrite_one (f : Bytes) (po : Nat) (infos : List PackInfo) (k : Nat) (loc : Bytes)
    (hm : ManifestAt f po infos) (hk : k < infos.length)
    (hw : (infos[k]).WF) (hl : loc.length ≤ Consts.locationPad) :
    let f' := splice f (po + k * 256) (block (setLoc infos[k] loc).encode)
    f'.length = f.length ∧
    (∀ i, (i < po + k * 256 + 38 ∨ po + k * 256 + 256 ≤ i) → f'[i]? = f[i]?) ∧
    readBlock f' (po + k * 256) 252 = .ok (setLoc infos[k] loc).encode ∧
    ManifestAt f' po (infos.set k (setLoc infos[k] loc)) ∧
    manifestMask po infos.length f' = manifestMask po infos.length f := by
  obtain ⟨hlen, hblk⟩ := hm
  have hw' := setLoc_WF _ loc hw hl
  have hpre := setLoc_fixed_prefix infos[k] loc hw hl
  have hk' := slot_end_le po 256 hk
  -- the re-encoded block is `new` from here on: 256 bytes that begin with the 38 bytes already there (`hp`), so
  -- that bytes change only in the last 218 of the slot (`hout`), all at exempt positions; the mask and (in
  -- `manifestAt_step`) the blocks outside the region are read off that
  generalize hnew : block (setLoc infos[k] loc).encode = new at hpre ⊢
  have hnl : new.length = 256 := by rw [← hnew]; exact PackInfo.encode_block_length _ hw'
  have hin : po + k * 256 + new.length ≤ f.length := by omega
  have hp : new.take 38 = slice f (po + k * 256) 38 := by
    rw [hpre, ← hblk k hk, take_slice (by omega)]
  have hout : ∀ i, (i < po + k * 256 + 38 ∨ po + k * 256 + 256 ≤ i) →
      (splice f (po + k * 256) new)[i]? = f[i]? := fun i hi => by
    rw [splice_of_prefix f new (po + k * 256) 38 (by omega) hp]
    exact splice_getElem?_outside _ _ _ _ (by rw [List.length_drop]; omega) (by rw [List.length_drop]; omega)
  have hsame : slice (splice f (po + k * 256) new) (po + k * 256) 256 = new := by
    have := slice_splice_same f new _ hin; rwa [hnl] at this
  refine ⟨splice_length _ _ _ hin, hout, ?_, ⟨?_, fun j hj => ?_⟩, ?_⟩
  · exact readBlock_of_slice (PackInfo.encode_length _ hw') (hsame.trans hnew.symm)
      (by rw [splice_length _ _ _ hin]; omega)
  · rw [splice_length _ _ _ hin, List.length_set]; exact hlen
  · rw [List.length_set] at hj
    rw [List.getElem_set]
    split
    · next hjk => rw [← hjk, hnew]; exact hsame
    · next hjk =>
      rw [slice_splice_disjoint _ _ _ _ _ hin (hnl.symm ▸ slots_disjoint po 256 (Ne.symm hjk)), hblk j hj]
  · refine (maskFrom_eq_iff po _ 0 _ _).2 ⟨splice_length _ _ _ hin, fun i hi => hout i ?_⟩
    refine Classical.byContradiction fun hc => ?_
    rw [Nat.zero_add, (maskedPos_iff ..).2 ⟨k, hk, by omega, by rw [Nat.succ_mul]; omega⟩] at hi
    cases hi

/-- one step of the spec: a (uuid, location) replaces the location of the first info carrying that uuid.
    `default` only makes `getD` total, it is never reached (`manifestAt_step`). -/
def specStep (infos : List PackInfo) (op : Bytes × Bytes) : List PackInfo :=
  match infos.findIdx? (fun p => p.uuid == op.1) with
  | some k => infos.set k (setLoc (infos.getD k default) op.2)
  | none => infos
where default : PackInfo := ⟨[], 0, (0, 0), 0, .content, 0, 0, []⟩

/-- the byte-level counterpart of `specStep` -/
def fileStep (po : Nat) (infos : List PackInfo) (f : Bytes) (op : Bytes × Bytes) : Bytes :=
  match infos.findIdx? (fun p => p.uuid == op.1) with
  | some k => splice f (po + k * 256) (block (setLoc (infos.getD k specStep.default) op.2).encode)
  | none => f

theorem specStep_length (infos : List PackInfo) (op : Bytes × Bytes) :
    (specStep infos op).length = infos.length := by
  unfold specStep
  split
  · exact List.length_set
  · rfl

theorem manifestAt_step {f : Bytes} {po : Nat} {infos : List PackInfo} (hm : ManifestAt f po infos)
    (hw : ∀ p ∈ infos, p.WF) (op : Bytes × Bytes) (hl : op.2.length ≤ Consts.locationPad) :
    ManifestAt (fileStep po infos f op) po (specStep infos op) ∧
    (fileStep po infos f op).length = f.length ∧
    (∀ p ∈ specStep infos op, p.WF) ∧
    manifestMask po infos.length (fileStep po infos f op) = manifestMask po infos.length f ∧
    (∀ a n, (a + (n + 4) ≤ po ∨ po + infos.length * 256 ≤ a) →
      readBlock (fileStep po infos f op) a n = readBlock f a n) := by
  unfold fileStep specStep
  cases hfi : infos.findIdx? (fun p => p.uuid == op.1) with
  | none => exact ⟨hm, rfl, hw, rfl, fun _ _ _ => rfl⟩
  | some k =>
    have hk : k < infos.length := (List.findIdx?_eq_some_iff_getElem.mp hfi).1
    have hwk : (infos[k]).WF := hw _ (List.getElem_mem hk)
    obtain ⟨h1, h2, -, h5, h6⟩ := rewrite_one f po infos k op.2 hm hk hwk hl
    have hk' := slot_end_le po 256 hk
    simp only [getD_of_lt infos k _ hk]
    refine ⟨h5, h1, fun p hp => ?_, h6, fun a n hd => ?_⟩
    · rcases List.mem_or_eq_of_mem_set hp with h | h
      · exact hw p h
      · rw [h]; exact setLoc_WF _ op.2 hwk hl
    · exact readBlock_congr (slice_congr fun j hj => h2 _ (by omega)) (by rw [h1])

/-- `c12_histories`: every history keeps what one step keeps -/
theorem rewrite_histories (po : Nat) (ops : List (Bytes × Bytes)) (f : Bytes) (infos : List PackInfo)
    (hm : ManifestAt f po infos) (hw : ∀ p ∈ infos, p.WF)
    (hl : ∀ op ∈ ops, op.2.length ≤ Consts.locationPad) :
    let r := ops.foldl (fun (st : Bytes × List PackInfo) op => (fileStep po st.2 st.1 op, specStep st.2 op)) (f, infos)
    ManifestAt r.1 po r.2 ∧ r.2 = ops.foldl specStep infos ∧ r.1.length = f.length ∧
    r.2.length = infos.length ∧ (∀ p ∈ r.2, p.WF) ∧
    manifestMask po infos.length r.1 = manifestMask po infos.length f := by
  induction ops generalizing f infos with
  | nil => exact ⟨hm, rfl, rfl, rfl, hw, rfl⟩
  | cons op rest ih =>
    obtain ⟨h1, h2, h4, h5, -⟩ := manifestAt_step hm hw op (hl op List.mem_cons_self)
    obtain ⟨a, b, c, d, e, g⟩ := ih _ _ h1 h4 fun o ho => hl o (List.mem_cons_of_mem _ ho)
    rw [specStep_length] at d g
    exact ⟨a, b, c.trans h2, d, e, g.trans h5⟩

theorem manifestAt_concat (pre : Bytes) (infos : List PackInfo) (post : Bytes)
    (hw : ∀ p ∈ infos, p.WF) :
    ManifestAt (pre ++ (infos.flatMap fun p => block p.encode) ++ post) pre.length infos := by
  have hl := infoBlocks_length infos hw
  rw [List.append_assoc]
  refine ⟨by rw [List.length_append, List.length_append, hl]; omega, fun k hk => ?_⟩
  have := slot_end_le 0 256 hk
  rw [slice_skip (Nat.le_add_right ..), Nat.add_sub_cancel_left, slice_append_of_le (by omega)]
  exact slice_flatten_fixed_mem infos _ 256 (fun p hp => PackInfo.encode_block_length p (hw p hp)) k hk

def exP1 : PackInfo := ⟨List.replicate 16 1, 300, (128, 37), 0, .directory, 0, 0, [97]⟩
def exP2 : PackInfo := ⟨List.replicate 16 2, 900, (165, 37), 1, .content, 0, 0, []⟩

/-- non-vacuity: a two-pack manifest region satisfies `ManifestAt` with well-formed infos, so a
    rewrite history over it meets every hypothesis of `rewrite_histories` -/
example : exP1.WF ∧ exP2.WF ∧
    ManifestAt ([9, 9, 9] ++ (block exP1.encode ++ (block exP2.encode ++ [7]))) 3 [exP1, exP2] := by
  have w1 : exP1.WF := by simp [PackInfo.WF, exP1, Consts.locationPad]
  have w2 : exP2.WF := by simp [PackInfo.WF, exP2, Consts.locationPad]
  have := manifestAt_concat [9, 9, 9] [exP1, exP2] [7] (by simp [w1, w2])
  simp only [List.flatMap_cons, List.flatMap_nil, List.append_nil, List.append_assoc] at this
  exact ⟨w1, w2, this⟩

end Jubako
