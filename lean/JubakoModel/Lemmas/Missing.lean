/-
C11 over the model: a container whose content packs are partly unavailable, for every way of
disturbing the file system outside the entry file (`Disturbed`).  Instantiated on a concrete
container in Lemmas/MissingExample.lean.

A *directory* at a recorded location is, for the model, the same state as a removed file: `FS` holds
regular files only, so `fs.get loc = none` (`FsLocator::locate` tests `path.is_file()` and answers
`Ok(None)` otherwise, for a directory exactly as for an absent file).

`missing_X` is the statement that `c11_X` (Theorems/C11.lean) repeats.
-/
import JubakoModel.Lemmas.Container

namespace Jubako

/-- the content-pack descriptions of the manifest (what `get_pack` and `check` walk) -/
abbrev ContainerView.contentInfos (c : ContainerView) : List PackInfo :=
  c.infos.filter (fun i => i.kind ≠ .directory)

/-- the description `get_pack(packId)` selects -/
abbrev ContainerView.infoOf (c : ContainerView) (packId : Nat) : Option PackInfo :=
  c.contentInfos.find? (fun i => i.packId == packId)

/-- Some statements assume the negation as `∀ p ∈ c.entryPacks, p.uuid ≠ u` (`not_encloses_iff`). -/
def ContainerView.Encloses (c : ContainerView) (u : Bytes) : Prop :=
  ∃ p, c.entryPacks.find? (fun q => q.uuid == u) = some p

theorem not_encloses_iff (c : ContainerView) (u : Bytes) :
    ¬ c.Encloses u ↔ ∀ p ∈ c.entryPacks, p.uuid ≠ u := by
  unfold ContainerView.Encloses
  rw [← Option.isSome_iff_exists, Bool.not_eq_true, Option.isSome_eq_false_iff, Option.isNone_iff_eq_none,
    List.find?_eq_none]
  simp

def FS.agreeOn (fs fs' : FS) (keep : String → Prop) : Prop :=
  ∀ n, keep n → FS.get fs' n = FS.get fs n

/-- absent (removed, or a directory), or a valid pack file all of whose packs have other uuids -/
def Unavailable (fs : FS) (u : Bytes) (loc : String) : Prop :=
  FS.get fs loc = none ∨
  ∃ f packs, FS.get fs loc = some f ∧ blindOpen f = .ok packs ∧ ∀ p ∈ packs, p.uuid ≠ u

/-- `fs'` is `fs` with any subset of the content packs made unavailable; nothing is said about any
    other file -/
def Disturbed (fs fs' : FS) (c : ContainerView) : Prop :=
  FS.get fs' c.entryFile = FS.get fs c.entryFile ∧
  ∀ info ∈ c.contentInfos,
    c.Encloses info.uuid ∨
    FS.get fs' (locationString info.location) = FS.get fs (locationString info.location) ∨
    Unavailable fs' info.uuid (locationString info.location)

/-- also models replacing the file by a directory -/
def FS.remove (fs : FS) (name : String) : FS := fs.filter (fun e => !(e.1 == name))

def FS.put (fs : FS) (name : String) (b : Bytes) : FS := (name, b) :: FS.remove fs name

theorem FS.get_remove (fs : FS) (name n : String) :
    FS.get (FS.remove fs name) n = if n = name then none else FS.get fs n := by
  unfold FS.get FS.remove
  rw [List.find?_filter]
  split
  · subst n
    rw [List.find?_eq_none.mpr (by simp)]; rfl
  · rename_i h
    congr 2
    funext e
    by_cases he : e.1 = n
    · simp [he, h]
    · simp [he]

theorem FS.get_remove_self (fs : FS) (name : String) : FS.get (FS.remove fs name) name = none := by
  rw [FS.get_remove, if_pos rfl]

theorem FS.get_remove_other (fs : FS) (name n : String) (h : n ≠ name) :
    FS.get (FS.remove fs name) n = FS.get fs n := by
  rw [FS.get_remove, if_neg h]

theorem FS.get_put (fs : FS) (name n : String) (b : Bytes) :
    FS.get (FS.put fs name b) n = if n = name then some b else FS.get fs n := by
  by_cases h : n = name
  · subst n
    rw [if_pos rfl, FS.put, FS.get, List.find?_cons_of_pos (by simp)]; rfl
  · rw [if_neg h, ← FS.get_remove_other fs name n h, FS.put, FS.get, FS.get,
      List.find?_cons_of_neg (by simpa using Ne.symm h)]

theorem FS.get_put_self (fs : FS) (name : String) (b : Bytes) :
    FS.get (FS.put fs name b) name = some b := by
  rw [FS.get_put, if_pos rfl]

theorem FS.get_put_other (fs : FS) (name n : String) (b : Bytes) (h : n ≠ name) :
    FS.get (FS.put fs name b) n = FS.get fs n := by
  rw [FS.get_put, if_neg h]

/-- removing / replacing files only at names outside `keep` gives an agreeing file system -/
theorem FS.agreeOn_remove (fs : FS) (name : String) (keep : String → Prop) (h : ¬ keep name) :
    FS.agreeOn fs (FS.remove fs name) keep := by
  intro n hn
  exact FS.get_remove_other fs name n (fun e => h (e ▸ hn))

theorem FS.agreeOn_put (fs : FS) (name : String) (b : Bytes) (keep : String → Prop)
    (h : ¬ keep name) : FS.agreeOn fs (FS.put fs name b) keep := by
  intro n hn
  exact FS.get_put_other fs name n b (fun e => h (e ▸ hn))

theorem FS.agreeOn_refl (fs : FS) (keep : String → Prop) : FS.agreeOn fs fs keep := fun _ _ => rfl

theorem FS.agreeOn_trans (a b c : FS) (keep : String → Prop) (h1 : FS.agreeOn a b keep)
    (h2 : FS.agreeOn b c keep) : FS.agreeOn a c keep := by
  intro n hn
  rw [h2 n hn, h1 n hn]

/-- what `get_pack` answers once the description is selected -/
def getPackOf (fs : FS) (c : ContainerView) (info : PackInfo) : Outcome PackLookup :=
  locate fs c.entryFile c.entryPacks info.uuid (locationString info.location) >>= fun r =>
    match r with
    | none => .ok (.missing info)
    | some l => .ok (.found (bytesOfLocated fs l))

/-- the `maxId` guard never hides a listed pack -/
theorem containerGetPack_listed (fs : FS) (c : ContainerView) (packId : Nat) (info : PackInfo)
    (hinfo : c.infoOf packId = some info) :
    containerGetPack fs c packId = getPackOf fs c info := by
  have hmem : info ∈ c.contentInfos := List.mem_of_find?_eq_some hinfo
  have hid : info.packId = packId := by simpa using List.find?_some hinfo
  have hle : packId ≤ (c.contentInfos.map (·.packId)).foldl max 0 := by
    rw [List.foldl_max]
    exact Nat.le_trans (List.le_max?_getD_of_mem (List.mem_map.mpr ⟨info, hmem, hid⟩)) (Nat.le_max_right ..)
  unfold containerGetPack
  simp only [ContainerView.infoOf, ContainerView.contentInfos] at hinfo hle ⊢
  rw [if_neg (by omega), hinfo]
  rfl

theorem containerGetPack_unlisted (fs : FS) (c : ContainerView) (packId : Nat)
    (hinfo : c.infoOf packId = none) : containerGetPack fs c packId = .ok .unknown := by
  unfold containerGetPack
  simp only [ContainerView.infoOf, ContainerView.contentInfos] at hinfo ⊢
  split
  · rfl
  · rw [hinfo]

theorem containerGetPack_found (fs : FS) (c : ContainerView) (packId : Nat) (info : PackInfo)
    (l : Located) (hinfo : c.infoOf packId = some info)
    (hloc : locate fs c.entryFile c.entryPacks info.uuid (locationString info.location) = .ok (some l)) :
    containerGetPack fs c packId = .ok (.found (bytesOfLocated fs l)) := by
  rw [containerGetPack_listed fs c packId info hinfo, getPackOf, hloc]
  rfl

/-- A continuation that uses of a located pack nothing but its bytes (the three callers of `locate` —
    `get_pack`, `check`, `Container::new` — are of this form) answers alike in two file systems that
    hold the same file where the lookup reads. -/
theorem locate_bind_frame {γ : Type} {fs fs' : FS} {c : ContainerView} {u : Bytes} {loc : String}
    (he : c.Encloses u → FS.get fs' c.entryFile = FS.get fs c.entryFile)
    (hl : ¬ c.Encloses u → FS.get fs' loc = FS.get fs loc) (A : Outcome γ) (B : Bytes → Outcome γ) :
    (locate fs' c.entryFile c.entryPacks u loc >>= fun r =>
        match r with
        | none => A
        | some l => B (bytesOfLocated fs' l)) =
      (locate fs c.entryFile c.entryPacks u loc >>= fun r =>
        match r with
        | none => A
        | some l => B (bytesOfLocated fs l)) := by
  unfold locate
  cases hp : c.entryPacks.find? (fun q => q.uuid == u) with
  | some p => simp only [Outcome.ok_bind, bytesOfLocated, he ⟨p, hp⟩]
  | none =>
    have h := hl fun ⟨p, hp'⟩ => nomatch hp.symm.trans hp'
    unfold fsLocate
    simp only [h]
    split
    · rfl
    · cases FS.get fs loc with
      | none => rfl
      | some f =>
        dsimp only
        cases blindOpen f with
        | ok ps =>
          simp only [Outcome.ok_bind]
          cases ps.find? (fun p => p.uuid == u) with
          | none => rfl
          | some q => simp only [Option.map_some, bytesOfLocated, h]
        | _ => rfl

/-- `get_manifest_pack_reader`'s test, on the bytes of a pack -/
def isManifestPack (b : Bytes) : Bool :=
  match packHeaderOf b with
  | .ok h => h.kind = .manifest
  | _ => false

theorem isManifestPack_of_header (b : Bytes) (h : PackHeader) (hh : packHeaderOf b = .ok h) :
    isManifestPack b = decide (h.kind = .manifest) := by
  unfold isManifestPack; rw [hh]

/-- the end of `Container::new`: locate the directory pack -/
def openTail (fs : FS) (entry : String) (packs : List PackAt) (m : Bytes) (infos : List PackInfo) :
    Outcome ContainerView :=
  match (infos.filter (fun i => i.kind = .directory)).getLast? with
  | none => .panic "manifest_pack.rs: directory_pack_info.unwrap()"
  | some di =>
    locate fs entry packs di.uuid (locationString di.location) >>= fun r =>
      match r with
      | none => .panic "jubako.rs: locate(directory pack).unwrap()"
      | some l => .ok ⟨entry, packs, m, infos, bytesOfLocated fs l⟩

theorem containerOpen_eq (fs : FS) (entry : String) :
    containerOpen fs entry =
      match FS.get fs entry with
      | none => .err .io
      | some f =>
        blindOpen f >>= fun packs =>
          match packs.find? (fun p => isManifestPack (slice f p.origin p.size)) with
          | none => .err .format
          | some mp =>
            manifestOpen (slice f mp.origin mp.size) >>= fun x =>
              openTail fs entry packs (slice f mp.origin mp.size) x.2.2 := rfl

theorem containerOpen_inv (fs : FS) (entry : String) (c : ContainerView)
    (hopen : containerOpen fs entry = .ok c) :
    ∃ f mp x di l, FS.get fs entry = some f ∧ blindOpen f = .ok c.entryPacks ∧
      c.entryPacks.find? (fun p => isManifestPack (slice f p.origin p.size)) = some mp ∧
      manifestOpen (slice f mp.origin mp.size) = .ok x ∧ x.2.2 = c.infos ∧
      c.manifest = slice f mp.origin mp.size ∧ c.entryFile = entry ∧
      (c.infos.filter (fun i => i.kind = .directory)).getLast? = some di ∧
      locate fs entry c.entryPacks di.uuid (locationString di.location) = .ok (some l) ∧
      c.dirPack = bytesOfLocated fs l := by
  rw [containerOpen_eq] at hopen
  cases hf : FS.get fs entry with
  | none => rw [hf] at hopen; cases hopen
  | some f =>
    rw [hf] at hopen
    obtain ⟨packs, hb, hopen⟩ := Outcome.bind_eq_ok.1 hopen
    cases hfind : packs.find? (fun p => isManifestPack (slice f p.origin p.size)) with
    | none => rw [hfind] at hopen; cases hopen
    | some mp =>
      rw [hfind] at hopen
      obtain ⟨x, hm, hopen⟩ := Outcome.bind_eq_ok.1 hopen
      unfold openTail at hopen
      cases hlast : (x.2.2.filter (fun i => i.kind = .directory)).getLast? with
      | none => rw [hlast] at hopen; cases hopen
      | some di =>
        rw [hlast] at hopen
        obtain ⟨r, hl, hopen⟩ := Outcome.bind_eq_ok.1 hopen
        cases r with
        | none => cases hopen
        | some l =>
          cases hopen
          exact ⟨f, mp, x, di, l, rfl, hb, hfind, hm, rfl, rfl, rfl, hlast, hl, rfl⟩

theorem containerOpen_entryFile {fs : FS} {entry : String} {c : ContainerView}
    (hopen : containerOpen fs entry = .ok c) : c.entryFile = entry := by
  obtain ⟨_, _, _, _, _, _, _, _, _, _, _, h, _⟩ := containerOpen_inv fs entry c hopen
  exact h

/-- `c11_still_opens` -/
theorem missing_still_opens (fs fs' : FS) (entry : String) (c : ContainerView)
    (hopen : containerOpen fs entry = .ok c)
    (hentry : FS.get fs' entry = FS.get fs entry)
    (hdir : ∀ di, (c.infos.filter (fun i => i.kind = .directory)).getLast? = some di →
      c.Encloses di.uuid ∨
      FS.get fs' (locationString di.location) = FS.get fs (locationString di.location)) :
    containerOpen fs' entry = .ok c := by
  -- The open in `fs` is taken apart and replayed in `fs'`: up to `locate` it reads the entry file only, and
  -- `locate` with what `Container::new` does with its answer (the two continuations of `hsrc`) is
  -- `locate_bind_frame`.
  obtain ⟨f, mp, x, di, l, hf, hb, hfind, hm, hx, hman, hfile, hlast, hl, hdp⟩ :=
    containerOpen_inv fs entry c hopen
  have hsrc := locate_bind_frame (fun _ => hfile ▸ hentry) (fun hn => (hdir di hlast).resolve_left hn)
    (.panic "jubako.rs: locate(directory pack).unwrap()")
    fun d => .ok (ContainerView.mk entry c.entryPacks c.manifest c.infos d)
  rw [hfile] at hsrc
  rw [containerOpen_eq, hentry, hf]
  simp only
  rw [hb, Outcome.ok_bind, hfind]
  simp only
  rw [hm, Outcome.ok_bind, hx, openTail, hlast, ← hman]
  simp only
  rw [hsrc, hl]
  show Outcome.ok _ = _
  rw [← hdp, ← hfile]

/-- `c11_still_opens_disturbed` -/
theorem missing_still_opens_disturbed (fs fs' : FS) (entry : String) (c : ContainerView)
    (hopen : containerOpen fs entry = .ok c) (hd : Disturbed fs fs' c)
    (hdir : ∀ di, (c.infos.filter (fun i => i.kind = .directory)).getLast? = some di →
      c.Encloses di.uuid) :
    containerOpen fs' entry = .ok c :=
  missing_still_opens fs fs' entry c hopen (containerOpen_entryFile hopen ▸ hd.1) fun di h =>
    Or.inl (hdir di h)

/-- `c11_frame` -/
theorem missing_frame (fs fs' : FS) (c : ContainerView) (packId : Nat)
    (hentry : FS.get fs' c.entryFile = FS.get fs c.entryFile)
    (hkeep : ∀ info, c.infoOf packId = some info →
      c.Encloses info.uuid ∨
      FS.get fs' (locationString info.location) = FS.get fs (locationString info.location)) :
    containerGetPack fs' c packId = containerGetPack fs c packId := by
  cases hinfo : c.infoOf packId with
  | none => rw [containerGetPack_unlisted fs' c packId hinfo, containerGetPack_unlisted fs c packId hinfo]
  | some info =>
    rw [containerGetPack_listed fs' c packId info hinfo, containerGetPack_listed fs c packId info hinfo]
    exact locate_bind_frame (fun _ => hentry) (fun hn => (hkeep info hinfo).resolve_left hn)
      (.ok (.missing info)) fun b => .ok (PackLookup.found b)

/-- the same, phrased with `agreeOn`: for every pack id at once -/
theorem missing_frame_agreeOn (fs fs' : FS) (c : ContainerView) (keep : String → Prop)
    (hag : FS.agreeOn fs fs' keep) (hentry : keep c.entryFile) (packId : Nat)
    (hkeep : ∀ info, c.infoOf packId = some info →
      c.Encloses info.uuid ∨ keep (locationString info.location)) :
    containerGetPack fs' c packId = containerGetPack fs c packId :=
  missing_frame fs fs' c packId (hag _ hentry) fun info hinfo => (hkeep info hinfo).imp_right (hag _)

/-- "everything else still reads": a pack found in `fs` is found, with the same bytes, in `fs'` -/
theorem missing_available_found (fs fs' : FS) (c : ContainerView) (packId : Nat) (b : Bytes)
    (hentry : FS.get fs' c.entryFile = FS.get fs c.entryFile)
    (hkeep : ∀ info, c.infoOf packId = some info →
      c.Encloses info.uuid ∨
      FS.get fs' (locationString info.location) = FS.get fs (locationString info.location))
    (hfound : containerGetPack fs c packId = .ok (.found b)) :
    containerGetPack fs' c packId = .ok (.found b) := by
  rw [missing_frame fs fs' c packId hentry hkeep, hfound]

theorem fsLocate_unavailable (fs : FS) (u : Bytes) (loc : String) (h : Unavailable fs u loc) :
    fsLocate fs u loc = .ok none := by
  rcases h with h | ⟨f, packs, hf, hb, hn⟩
  · exact fsLocate_missing fs u loc h
  · by_cases hne : loc = ""
    · unfold fsLocate
      rw [if_pos hne]
    · exact fsLocate_other_uuid fs u loc f packs hf hne hb hn

theorem locate_unavailable (fs : FS) (c : ContainerView) (u : Bytes) (loc : String)
    (hne : ¬ c.Encloses u) (h : Unavailable fs u loc) :
    locate fs c.entryFile c.entryPacks u loc = .ok none := by
  rw [locate_fs fs _ _ _ _ (Option.eq_none_iff_forall_ne_some.mpr fun p hp => hne ⟨p, hp⟩)]
  exact fsLocate_unavailable fs u loc h

/-- `c11_missing_of_unavailable` -/
theorem missing_missing_of_unavailable (fs' : FS) (c : ContainerView) (packId : Nat) (info : PackInfo)
    (hinfo : c.infoOf packId = some info)
    (hne : ∀ p ∈ c.entryPacks, p.uuid ≠ info.uuid)
    (hun : Unavailable fs' info.uuid (locationString info.location)) :
    containerGetPack fs' c packId = .ok (.missing info) := by
  rw [containerGetPack_listed fs' c packId info hinfo, getPackOf,
    locate_unavailable fs' c _ _ ((not_encloses_iff c _).mpr hne) hun]
  rfl

/-- `c11_missing_exclusive` -/
theorem missing_missing_exclusive (fs' : FS) (c : ContainerView) (packId : Nat) (info : PackInfo)
    (hinfo : c.infoOf packId = some info)
    (hne : ∀ p ∈ c.entryPacks, p.uuid ≠ info.uuid)
    (hun : Unavailable fs' info.uuid (locationString info.location)) :
    (∀ k, containerGetPack fs' c packId ≠ .err k) ∧ (∀ s, containerGetPack fs' c packId ≠ .panic s) ∧
    containerGetPack fs' c packId ≠ .hang ∧ containerGetPack fs' c packId ≠ .fault ∧
    (∀ b, containerGetPack fs' c packId ≠ .ok (.found b)) ∧
    containerGetPack fs' c packId ≠ .ok .unknown := by
  rw [missing_missing_of_unavailable fs' c packId info hinfo hne hun]
  refine ⟨?_, ?_, ?_, ?_, ?_, ?_⟩ <;> intros <;> intro h <;> cases h

/-- `c11_total` -/
theorem missing_total (fs fs' : FS) (c : ContainerView) (hd : Disturbed fs fs' c) (packId : Nat)
    (r : PackLookup) (hok : containerGetPack fs c packId = .ok r) :
    containerGetPack fs' c packId = .ok r ∨
    ∃ info, c.infoOf packId = some info ∧ containerGetPack fs' c packId = .ok (.missing info) := by
  obtain ⟨hentry, hlocs⟩ := hd
  cases hinfo : c.infoOf packId with
  | none => exact Or.inl (by rw [missing_frame fs fs' c packId hentry (by rw [hinfo]; nofun), hok])
  | some info =>
    have same := fun h => show containerGetPack fs' c packId = .ok r by
      rw [missing_frame fs fs' c packId hentry (by rw [hinfo]; intro i hi; cases hi; exact h), hok]
    by_cases henc : c.Encloses info.uuid
    · exact Or.inl (same (Or.inl henc))
    · rcases (hlocs info (List.mem_of_find?_eq_some hinfo)).resolve_left henc with h | h
      · exact Or.inl (same (Or.inr h))
      · exact Or.inr ⟨info, rfl, missing_missing_of_unavailable fs' c packId info hinfo
          ((not_encloses_iff c _).mp henc) h⟩

/-- the three-way answer of the statement: a pack found before is found with the same bytes or
    reported missing with its description — never an error or a panic, never other bytes -/
theorem missing_total_found (fs fs' : FS) (c : ContainerView) (hd : Disturbed fs fs' c) (packId : Nat)
    (b : Bytes) (hok : containerGetPack fs c packId = .ok (.found b)) :
    containerGetPack fs' c packId = .ok (.found b) ∨
    ∃ info, c.infoOf packId = some info ∧ containerGetPack fs' c packId = .ok (.missing info) :=
  missing_total fs fs' c hd packId (.found b) hok

/-- the check `Container::check` runs on a located pack: its reader is re-opened blindly and every
    pack found is opened and checked -/
def locatedCheck (H : Bytes → Bytes) (fs : FS) (l : Located) : Outcome Bool :=
  blindOpen (bytesOfLocated fs l) >>= fun packs => packsCheck H (bytesOfLocated fs l) packs

/-- the walk of `Container::check` skips a pack that is not located -/
def stepCheck (H : Bytes → Bytes) (fs : FS) (c : ContainerView) (info : PackInfo) : Outcome Bool :=
  locate fs c.entryFile c.entryPacks info.uuid (locationString info.location) >>= fun r =>
    match r with
    | none => pure true
    | some l => locatedCheck H fs l

def walkCheck (H : Bytes → Bytes) (fs : FS) (c : ContainerView) (infos : List PackInfo) (acc : Bool) :
    Outcome Bool :=
  infos.foldlM (fun acc info => if !acc then pure false else stepCheck H fs c info) acc

theorem containerCheck_eq (H : Bytes → Bytes) (fs : FS) (c : ContainerView) :
    containerCheck H fs c =
      (manifestCheck H c.manifest >>= fun m =>
        if !m then .ok false else
        packCheck H id c.dirPack >>= fun d =>
        if !d then .ok false else walkCheck H fs c c.contentInfos true) := rfl

theorem walkCheck_nil (H : Bytes → Bytes) (fs : FS) (c : ContainerView) (acc : Bool) :
    walkCheck H fs c [] acc = .ok acc := rfl

theorem containerCheck_walk (H : Bytes → Bytes) (fs : FS) (c : ContainerView)
    (hm : manifestCheck H c.manifest = .ok true) (hdir : packCheck H id c.dirPack = .ok true) :
    containerCheck H fs c = walkCheck H fs c c.contentInfos true := by
  rw [containerCheck_eq, hm, Outcome.ok_bind, hdir, Outcome.ok_bind]
  rfl

theorem containerCheck_true_iff (H : Bytes → Bytes) (fs : FS) (c : ContainerView) :
    containerCheck H fs c = .ok true ↔
      manifestCheck H c.manifest = .ok true ∧ packCheck H id c.dirPack = .ok true ∧
      ∀ i ∈ c.contentInfos, stepCheck H fs c i = .ok true := by
  refine ⟨fun h => ?_, fun ⟨hm, hdir, hall⟩ => ?_⟩
  · rw [containerCheck_eq] at h
    obtain ⟨m, hm, h⟩ := Outcome.bind_eq_ok.1 h
    cases m with
    | false => cases h
    | true =>
      obtain ⟨d, hd, h⟩ := Outcome.bind_eq_ok.1 (show (packCheck H id c.dirPack >>= _) = _ from h)
      cases d with
      | false => cases h
      | true => exact ⟨hm, hd, (foldlM_all_true_iff _ _).1 h⟩
  · rw [containerCheck_walk H fs c hm hdir]
    exact (foldlM_all_true_iff _ _).2 hall

theorem stepCheck_missing (H : Bytes → Bytes) (fs : FS) (c : ContainerView) (info : PackInfo)
    (h : locate fs c.entryFile c.entryPacks info.uuid (locationString info.location) = .ok none) :
    stepCheck H fs c info = .ok true := by
  unfold stepCheck
  rw [h]
  rfl

theorem stepCheck_present (H : Bytes → Bytes) (fs : FS) (c : ContainerView) (info : PackInfo)
    (l : Located)
    (h : locate fs c.entryFile c.entryPacks info.uuid (locationString info.location) = .ok (some l)) :
    stepCheck H fs c info = locatedCheck H fs l := by
  unfold stepCheck
  rw [h]
  rfl

theorem stepCheck_unavailable (H : Bytes → Bytes) (fs : FS) (c : ContainerView) (info : PackInfo)
    (hne : ¬ c.Encloses info.uuid) (hun : Unavailable fs info.uuid (locationString info.location)) :
    stepCheck H fs c info = .ok true :=
  stepCheck_missing H fs c info (locate_unavailable fs c _ _ hne hun)

theorem stepCheck_frame (H : Bytes → Bytes) {fs fs' : FS} {c : ContainerView} {info : PackInfo}
    (he : c.Encloses info.uuid → FS.get fs' c.entryFile = FS.get fs c.entryFile)
    (hl : ¬ c.Encloses info.uuid →
      FS.get fs' (locationString info.location) = FS.get fs (locationString info.location)) :
    stepCheck H fs' c info = stepCheck H fs c info :=
  locate_bind_frame he hl (pure true) fun b => blindOpen b >>= fun packs => packsCheck H b packs

/-- `c11_check_verdict` -/
theorem missing_check_verdict (H : Bytes → Bytes) (fs' : FS) (c : ContainerView) (v : PackInfo → Bool)
    (hm : manifestCheck H c.manifest = .ok true) (hdir : packCheck H id c.dirPack = .ok true)
    (hpacks : ∀ info ∈ c.contentInfos,
      (locate fs' c.entryFile c.entryPacks info.uuid (locationString info.location) = .ok none ∧
        v info = true) ∨
      ∃ l, locate fs' c.entryFile c.entryPacks info.uuid (locationString info.location) = .ok (some l) ∧
        locatedCheck H fs' l = .ok (v info)) :
    containerCheck H fs' c = .ok (c.contentInfos.all v) := by
  rw [containerCheck_walk H fs' c hm hdir]
  -- the walk does not stop at a missing pack
  refine foldlM_all _ v _ fun i hi => ?_
  rcases hpacks i hi with ⟨h, hv⟩ | ⟨l, hl, hc⟩
  · rw [hv]; exact stepCheck_missing H fs' c i h
  · rw [stepCheck_present H fs' c i l hl, hc]

/-- `c11_check_present_ok` -/
theorem missing_check_present_ok (H : Bytes → Bytes) (fs' : FS) (c : ContainerView)
    (hm : manifestCheck H c.manifest = .ok true) (hdir : packCheck H id c.dirPack = .ok true)
    (hpacks : ∀ info ∈ c.contentInfos,
      locate fs' c.entryFile c.entryPacks info.uuid (locationString info.location) = .ok none ∨
      ∃ l, locate fs' c.entryFile c.entryPacks info.uuid (locationString info.location) = .ok (some l) ∧
        locatedCheck H fs' l = .ok true) :
    containerCheck H fs' c = .ok true := by
  rw [missing_check_verdict H fs' c (fun _ => true) hm hdir fun i hi => (hpacks i hi).imp_left fun h => ⟨h, rfl⟩,
    List.all_eq_true.mpr fun _ _ => rfl]

/-- `c11_check_damaged` -/
theorem missing_check_damaged (H : Bytes → Bytes) (fs' : FS) (c : ContainerView) (info : PackInfo)
    (l : Located) (hmem : info ∈ c.contentInfos)
    (hloc : locate fs' c.entryFile c.entryPacks info.uuid (locationString info.location) = .ok (some l))
    (hbad : locatedCheck H fs' l ≠ .ok true) :
    containerCheck H fs' c ≠ .ok true := by
  intro h
  have := ((containerCheck_true_iff H fs' c).1 h).2.2 info hmem
  rw [stepCheck_present H fs' c info l hloc] at this
  exact hbad this

/-- a damaged present pack makes the verdict exactly `false` (not an error) when every other
    content pack is missing or present with a verdict -/
theorem missing_check_damaged_false (H : Bytes → Bytes) (fs' : FS) (c : ContainerView)
    (v : PackInfo → Bool) (info : PackInfo) (hmem : info ∈ c.contentInfos) (hv : v info = false)
    (hm : manifestCheck H c.manifest = .ok true) (hdir : packCheck H id c.dirPack = .ok true)
    (hpacks : ∀ info ∈ c.contentInfos,
      (locate fs' c.entryFile c.entryPacks info.uuid (locationString info.location) = .ok none ∧
        v info = true) ∨
      ∃ l, locate fs' c.entryFile c.entryPacks info.uuid (locationString info.location) = .ok (some l) ∧
        locatedCheck H fs' l = .ok (v info)) :
    containerCheck H fs' c = .ok false := by
  rw [missing_check_verdict H fs' c v hm hdir hpacks, List.all_eq_false.mpr ⟨info, hmem, by rw [hv]; nofun⟩]

/-- `c11_check_disturbed_ok` -/
theorem missing_check_disturbed_ok (H : Bytes → Bytes) (fs fs' : FS) (c : ContainerView)
    (hd : Disturbed fs fs' c) (h : containerCheck H fs c = .ok true) :
    containerCheck H fs' c = .ok true := by
  obtain ⟨hentry, hlocs⟩ := hd
  obtain ⟨hm, hdir, hall⟩ := (containerCheck_true_iff H fs c).1 h
  refine (containerCheck_true_iff H fs' c).2 ⟨hm, hdir, fun i hi => ?_⟩
  by_cases hun : ¬ c.Encloses i.uuid ∧ Unavailable fs' i.uuid (locationString i.location)
  · exact stepCheck_unavailable H fs' c i hun.1 hun.2
  · -- enclosed, or its location untouched: the step reads the same file as before
    rw [stepCheck_frame H (fun _ => hentry) fun hn =>
      ((hlocs i hi).resolve_left hn).resolve_right fun h => hun ⟨hn, h⟩]
    exact hall i hi

/-- `c11_check_disturbed_damaged` -/
theorem missing_check_disturbed_damaged (H : Bytes → Bytes) (fs fs' : FS) (c : ContainerView)
    (info : PackInfo) (hmem : info ∈ c.contentInfos)
    (hsrc : (c.Encloses info.uuid ∧ FS.get fs' c.entryFile = FS.get fs c.entryFile) ∨
         (¬ c.Encloses info.uuid ∧
          FS.get fs' (locationString info.location) = FS.get fs (locationString info.location)))
    (hbad : stepCheck H fs c info ≠ .ok true) :
    containerCheck H fs' c ≠ .ok true := by
  intro h
  have := ((containerCheck_true_iff H fs' c).1 h).2.2 info hmem
  rw [stepCheck_frame H (fun he => hsrc.elim (·.2) fun h => absurd he h.1)
    fun hn => hsrc.elim (fun h => absurd h.1 hn) (·.2)] at this
  exact hbad this

end Jubako
