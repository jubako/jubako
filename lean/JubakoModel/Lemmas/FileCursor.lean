/-
The shared-file protocol (Model/FileCursor.lean) when every access is `atomicAccess`.  The invariant is
stated thread by thread (`FThread.Ok`): it depends on the rest of the state only through `cursor` and
`owner`, and for a thread that does not hold the mutex not even on `cursor` (`FThread.Ok.frame`).  Mutual
exclusion needs no clause of its own: a thread inside its critical section has `owner = some t`, and
`owner` is one value.
-/
import JubakoModel.Model.FileCursor

namespace Jubako

/-- One alternative per position inside an access: the five lists are `atomicAccess` and its suffixes.  From `seek`
    to `unlock` the thread is the owner; between `seek` and `read` the cursor is the thread's own offset. -/
def curOk (cursor : Nat) (owner : Option Nat) (t : Nat) : Option (List FAct × Nat × Nat) → Prop
  | none => owner ≠ some t
  | some (acts, off, _) =>
    (acts = [.lock, .seek, .read, .unlock] ∧ owner ≠ some t) ∨
    (acts = [.seek, .read, .unlock] ∧ owner = some t) ∨
    (acts = [.read, .unlock] ∧ owner = some t ∧ cursor = off) ∨
    (acts = [.unlock] ∧ owner = some t) ∨
    (acts = [] ∧ owner ≠ some t)

structure FThread.Ok (file : Bytes) (cursor : Nat) (owner : Option Nat) (t : Nat) (th : FThread) : Prop where
  todo : ∀ op ∈ th.todo, op.acts = atomicAccess
  exact : ∀ r ∈ th.got, r.2.2 = slice file r.1 r.2.1
  cur : curOk cursor owner t th.cur

def FInv (s : FState) : Prop := ∀ t, (s.threads t).Ok s.file s.cursor s.owner t

theorem FThread.Ok.frame {file : Bytes} {cursor cursor' : Nat} {owner owner' : Option Nat} {u : Nat}
    {th : FThread} (h : th.Ok file cursor owner u) (ho : owner ≠ some u) (ho' : owner' ≠ some u) :
    th.Ok file cursor' owner' u := by
  refine ⟨h.todo, h.exact, ?_⟩
  have hc := h.cur
  cases hcur : th.cur with
  | none => exact ho'
  | some c =>
    obtain ⟨acts, off, len⟩ := c
    rw [hcur] at hc
    rcases hc with ⟨ha, -⟩ | ⟨-, hh⟩ | ⟨-, hh, -⟩ | ⟨-, hh⟩ | ⟨ha, -⟩
    · exact .inl ⟨ha, ho'⟩
    · exact absurd hh ho
    · exact absurd hh ho
    · exact absurd hh ho
    · exact .inr (.inr (.inr (.inr ⟨ha, ho'⟩)))

/-- second alternative of `hfr`: `t` is or becomes the holder, so no other thread holds the mutex and
    `FThread.Ok.frame` applies to each of them -/
theorem FInv.upd {s : FState} (h : FInv s) {t cursor' : Nat} {owner' : Option Nat} {th' : FThread}
    (hth : th'.Ok s.file cursor' owner' t)
    (hfr : cursor' = s.cursor ∧ owner' = s.owner ∨
      (s.owner = none ∨ s.owner = some t) ∧ (owner' = none ∨ owner' = some t)) :
    FInv { s with cursor := cursor', owner := owner', threads := s.upd t th' } := by
  intro u
  show (FState.upd s t th' u).Ok s.file cursor' owner' u
  unfold FState.upd
  split
  · next hu => rw [hu]; exact hth
  · next hu =>
    have other {o : Option Nat} (ho : o = none ∨ o = some t) : o ≠ some u := by
      rintro rfl
      rcases ho with ho | ho <;> cases ho
      exact hu rfl
    rcases hfr with ⟨rfl, rfl⟩ | ⟨ho, ho'⟩
    · exact h u
    · exact (h u).frame (other ho) (other ho')

theorem finv_init (file : Bytes) (progs : List (List (Nat × Nat))) :
    FInv (FState.init file atomicAccess progs) := by
  refine fun t => ⟨fun op hop => ?_, fun r hr => (nomatch hr), fun h => (nomatch h)⟩
  obtain ⟨p, -, rfl⟩ := List.mem_map.mp hop
  rfl

theorem finv_step {s s' : FState} {t : Nat} (h : FInv s) (hs : s.step t = some s') : FInv s' := by
  obtain ⟨htodo, hexact, hcur⟩ := h t
  unfold FState.step at hs
  cases hc : (s.threads t).cur with
  | none =>
    -- start the next access
    simp only [hc] at hs
    cases htd : (s.threads t).todo with
    | nil => simp [htd] at hs
    | cons op rest =>
      simp only [htd, Option.some.injEq] at hs
      subst hs
      rw [htd] at htodo
      refine h.upd ⟨fun o ho => htodo o (List.mem_cons_of_mem _ ho), hexact, .inl ⟨?_, ?_⟩⟩ (.inl ⟨rfl, rfl⟩)
      · exact htodo op List.mem_cons_self
      · rw [hc] at hcur; exact hcur
  | some c =>
    obtain ⟨acts, off, len⟩ := c
    rw [hc] at hcur
    rcases hcur with ⟨rfl, ho⟩ | ⟨rfl, ho⟩ | ⟨rfl, ho, hcu⟩ | ⟨rfl, ho⟩ | ⟨rfl, ho⟩ <;> simp only [hc] at hs
    · -- lock
      split at hs
      · next hfree =>
        cases hs
        exact h.upd ⟨htodo, hexact, .inr (.inl ⟨rfl, rfl⟩)⟩ (.inr ⟨.inl hfree, .inr rfl⟩)
      · cases hs
    · -- seek
      cases hs
      exact h.upd ⟨htodo, hexact, .inr (.inr (.inl ⟨rfl, ho, rfl⟩))⟩ (.inr ⟨.inr ho, .inr ho⟩)
    · -- read: the cursor is where the seek put it
      cases hs
      refine h.upd ⟨htodo, fun r hr => ?_, .inr (.inr (.inr (.inl ⟨rfl, ho⟩)))⟩ (.inr ⟨.inr ho, .inr ho⟩)
      rcases List.mem_append.mp hr with hr | hr
      · exact hexact r hr
      · cases List.mem_singleton.mp hr; rw [hcu]
    · -- unlock
      cases hs
      rw [if_pos ho]
      exact h.upd ⟨htodo, hexact, .inr (.inr (.inr (.inr ⟨rfl, nofun⟩)))⟩ (.inr ⟨.inr ho, .inl rfl⟩)
    · -- the access is over
      cases hs
      exact h.upd ⟨htodo, hexact, ho⟩ (.inl ⟨rfl, rfl⟩)

theorem finv_run (s : FState) (h : FInv s) (sched : List Nat) : FInv (s.run sched) := by
  induction sched generalizing s with
  | nil => exact h
  | cons t rest ih =>
    simp only [FState.run]
    cases hs : s.step t with
    | none => exact ih s h
    | some s' => exact ih s' (finv_step h hs)

end Jubako
