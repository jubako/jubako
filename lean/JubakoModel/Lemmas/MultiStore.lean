/-
For `c15_multi_store`: the schedule `finalizeRepaired` run phase by phase — the sort phase by the invariant
`SortedUpTo`, the sizing and the writing phase as appends to their logs.
-/
import JubakoModel.Model.MultiStore
import JubakoModel.Lemmas.Refs

namespace Jubako

theorem MSt.run_append (stores : List StoreIn) (s : MSt) (a b : List MAct) :
    s.run stores (a ++ b) = (s.run stores a).run stores b := List.foldl_append ..

/-- The state after the `sort` actions of stores `0 … m-1`: these have their final cells, the others still their
    insertion order, nothing is sized or written. -/
structure SortedUpTo (stores : List StoreIn) (m : Nat) (s : MSt) : Prop where
  len : s.orders.length = stores.length
  done : ∀ i, i < m → i < stores.length → ∀ e, s.cells i e = finalPos stores i e
  todo : ∀ i, m ≤ i → ∀ (h : i < stores.length), s.orders[i]? = some (List.range (stores[i]).n)
  sized : s.sizedAt = []
  written : s.writtenAt = []

theorem SortedUpTo.step {stores : List StoreIn} {m : Nat} {s : MSt} (h : SortedUpTo stores m s)
    (hm : m < stores.length) : SortedUpTo stores (m + 1) (s.step stores (.sort m)) := by
  have hs : stores[m]? = some stores[m] := List.getElem?_eq_getElem hm
  -- `MSt.init` starts the cells at the insertion index, `DirRefIn.finalize` at 0:
  -- `run_finalizeSteps` holds for any start
  simp only [MSt.step, hs, h.todo m (Nat.le_refl _) hm, sortStore, FinSt.run_finalizeSteps]
  refine ⟨by simp [h.len], fun i hi hlt e => ?_, fun i hi hlt => ?_, h.sized, h.written⟩
  · by_cases him : i = m
    · simp [him, finalPos, hs]
    · simp only [him, if_false]
      exact h.done i (by omega) hlt e
  · rw [List.getElem?_set_ne (by omega)]
    exact h.todo i (by omega) hlt

theorem SortedUpTo.all (stores : List StoreIn) (m : Nat) (hm : m ≤ stores.length) :
    SortedUpTo stores m ((MSt.init stores).run stores ((List.range m).map MAct.sort)) := by
  induction m with
  | zero =>
    exact ⟨List.length_map _, fun i h => by omega, fun i _ h => by simp [MSt.run, MSt.init, h], rfl, rfl⟩
  | succ k ih =>
    rw [List.range_succ, List.map_append, MSt.run_append]
    exact (ih (by omega)).step (by omega)

theorem MSt.run_size (stores : List StoreIn) (s : MSt) (l : List Nat) :
    s.run stores (l.map MAct.size) = { s with sizedAt := s.sizedAt ++ l.map (fun i => (i, s.cells)) } := by
  induction l generalizing s with
  | nil => simp [MSt.run]
  | cons i l ih =>
    rw [List.map_cons, MSt.run, List.foldl_cons]
    exact (ih _).trans (by simp [MSt.step])

theorem MSt.run_write (stores : List StoreIn) (s : MSt) (l : List Nat) :
    s.run stores (l.map MAct.write) =
      { s with writtenAt := s.writtenAt ++ l.map (fun i => (i, s.cells)) } := by
  induction l generalizing s with
  | nil => simp [MSt.run]
  | cons i l ih =>
    rw [List.map_cons, MSt.run, List.foldl_cons]
    exact (ih _).trans (by simp [MSt.step])

end Jubako
