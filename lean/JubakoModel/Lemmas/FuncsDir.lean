/-
Writer-side ties of the directory pack (`creator/directory_pack`) to the Rust bodies translated from the source on
every run (Generated/FuncsDir.lean): what the `serialize*` bodies write, as byte images (`writesBytes`).
-/
import JubakoModel.Model.DirWriter
import JubakoModel.Model.DirLayout
import JubakoModel.Generated.FuncsDir
import JubakoModel.Lemmas.FuncsBytes
import JubakoModel.Lemmas.Codec
import JubakoModel.Lemmas.Offsets

namespace Jubako

theorem gen_signedSizeKey (v : Int) (hlo : -(2 : Int) ^ 63 ≤ v) (hhi : v < (2 : Int) ^ 63) :
    (signedSizeKey v : Int) = Generated.signedSizeKey v := by
  -- both sides take the same magnitude `m` and saturate `2 * m` at `i64::MAX`
  have key : ∀ m : Int, 0 ≤ m → ((min (2 * m).toNat (2 ^ 63 - 1) : Nat) : Int) =
      ((if m * 2 ≤ 9223372036854775807 then some (m * 2) else none).getD 9223372036854775807) := by
    intro m hm
    split <;> simp only [Option.getD_some, Option.getD_none] <;> omega
  unfold signedSizeKey Generated.signedSizeKey
  exact key _ (by split <;> omega)

theorem endOffsetWrites_fold (w : Nat) (l : List Bytes) (out : List (Nat × Nat)) (off : Nat) :
    (l.foldl (fun (p : List (Nat × Nat) × Nat) (idx : Bytes) =>
        match p with
        | (out, offset) => (out ++ [(offset + idx.length, w)], offset + idx.length)) (out, off)).1 =
      out ++ (endOffsets l off).map (fun o => (o, w)) := by
  induction l generalizing out off with
  | nil => simp [endOffsets]
  | cons x xs ih => simp [endOffsets, ih]

/-- **The value-store tails of the model are the byte images of the writes of the two
    `serialize_tail` bodies (`creator/directory_pack/value_store.rs`) translated on every run**:
    plain `[0x00, data size : u64]`; indexed `[0x01, count : u64, width : u8, data size, end offsets of
    all values but the last]` with width `needed_bytes(data size)`. -/
theorem gen_vstoreTail (s : VStore) :
    s.tailBytes = writesBytes (if s.indexed then Generated.indexedStoreTailWrites s.values s.dataSize
                               else Generated.plainStoreTailWrites s.dataSize) := by
  unfold VStore.tailBytes
  cases hi : s.indexed with
  | false =>
    simp [Generated.plainStoreTailWrites, writesBytes_cons, writesBytes_nil, leBytes]
  | true =>
    have hf := endOffsetWrites_fold (neededBytes s.dataSize) s.values.dropLast
    simp only [if_true, Generated.indexedStoreTailWrites, gen_neededBytes, Option.getD_some]
    by_cases hv : s.values = []
    · simp [hv, writesBytes_cons, writesBytes_nil, endOffsets, leBytes, UInt8.ofNat_mod_size']
    · simp only [hv, not_false_eq_true, if_true]
      rw [hf, endOffsets_dropLast]
      simp [writesBytes, leBytes, List.map_map, Function.comp_def, UInt8.ofNat_mod_size']

/-- `Index::serialize_tail` (`creator/directory_pack/mod.rs`); the field widths come from the struct definition and
    the type table of the source -/
theorem gen_indexTail (i : IndexInfo) (hfd : i.freeData.length = 4) :
    i.encode = writesBytes (Generated.indexTailWrites i.storeId i.count i.offset i.freeData i.key i.name) := by
  have h1 : leBytes (leNat i.freeData) 4 = i.freeData := by rw [← hfd]; exact leBytes_leNat _
  simp [IndexInfo.encode, Generated.indexTailWrites, writesBytes_cons, writesBytes_nil, h1, leBytes_leNat, leBytes_one, pstringEncode]

/-- the value of `enum Property` (`creator/directory_pack/layout/property.rs`, generated as `SrcProperty`) the
    creator builds for a property of the model's layout — except for the model's indirect arrays
    (`.array none 0 …`): the creator builds `IndirectArray` for them, here they go to the `Array` arm, so the
    translated `IndirectArray` arms are compared with nothing -/
def RawProp.toSrc (p : RawProp) : Option Generated.SrcProperty :=
  match p.kind with
  | .padding => some (.padding p.size)
  | .variantId => some (.variantId p.name)
  | .uint sz dflt => some (.unsignedInt sz dflt p.name)
  | .sint sz dflt => some (.signedInt sz dflt p.name)
  | .content ps cs dflt => some (.contentAddress cs ps dflt p.name)
  | .array lenSize fixedLen dep _ => some (.array lenSize fixedLen dep p.name)
  | .deportedInt _ _ _ _ => none

/-- the ranges under which the header ties hold; wider than what the format can hold, whose exact ranges (padding
    ≤ 16, length field 1..3) are those of `RawProp.Writable` (Lemmas/DirCodec.lean) -/
def RawProp.HeaderWF (p : RawProp) : Prop :=
  match p.kind with
  | .padding => 1 ≤ p.size ∧ p.size ≤ 256
  | .variantId => True
  | .uint sz _ => 1 ≤ sz ∧ sz ≤ 8
  | .sint sz _ => 1 ≤ sz ∧ sz ≤ 8
  | .content ps cs _ => 1 ≤ cs ∧ cs ≤ 4 ∧ (ps = 1 ∨ ps = 2)
  | .array lenSize fixedLen dep _ =>
    (∀ s, lenSize = some s → s ≤ 8) ∧ (∀ s i, dep = some (s, i) → s ≤ 7) ∧ fixedLen ≤ 31
  | .deportedInt _ _ _ _ => True

/-- `Property::serialize`, for the kinds the creator writes (indirect arrays through the `Array` arm, see
    `RawProp.toSrc`) -/
theorem gen_propertyHeader (p : RawProp) (src : Generated.SrcProperty) (hs : p.toSrc = some src) (hw : p.HeaderWF) :
    p.encode = writesBytes (Generated.propertyWrites src) := by
  have m : ∀ {x : Nat}, x ≤ 8 → x % 256 = x := fun h => Nat.mod_eq_of_lt (Nat.lt_of_le_of_lt h (by decide))
  obtain ⟨size, name, kind⟩ := p
  cases kind <;> cases hs
  case padding | variantId =>
    simp [RawProp.encode, Generated.propertyWrites, writesBytes_cons, writesBytes_nil, leBytes_one, leBytes_leNat,
      pstringEncode]
  case uint sz dflt | sint sz dflt =>
    cases dflt <;>
      simp [RawProp.encode, Generated.propertyWrites, writesBytes_cons, writesBytes_nil, leBytes_one, leBytes_leNat,
        pstringEncode, leBytesInt, m hw.2]
  case content ps cs dflt =>
    obtain ⟨h1, h2, h3⟩ := hw
    have hor : (16 + (cs - 1)) ||| 4 = 16 + (cs - 1) + 4 := by
      have : cs = 1 ∨ cs = 2 ∨ cs = 3 ∨ cs = 4 := by omega
      rcases this with rfl | rfl | rfl | rfl <;> decide
    rcases h3 with rfl | rfl <;> cases dflt <;>
      simp [RawProp.encode, Generated.propertyWrites, writesBytes_cons, writesBytes_nil, leBytes_one, leBytes_leNat,
        pstringEncode, m (Nat.le_trans h2 (by decide)), hor]
  case array lenSize fixedLen dep dflt =>
    have hl : ∀ l, lenSize = some l → l % 256 = l := fun l h => m (hw.1 l h)
    have hd : ∀ x, dep = some x → x.1 % 256 = x.1 := fun x h => m (Nat.le_trans (hw.2.1 x.1 x.2 h) (by decide))
    cases lenSize <;> cases dep <;>
      simp [RawProp.encode, Generated.propertyWrites, writesBytes_cons, writesBytes_nil, leBytes_one, leBytes_leNat,
        pstringEncode, hl, hd, Nat.shiftLeft_eq]

theorem gen_propertyHeaders (ps : List RawProp) (ss : List Generated.SrcProperty)
    (hs : ps.map RawProp.toSrc = ss.map some) (hw : ∀ p ∈ ps, p.HeaderWF) :
    (ps.map RawProp.encode).flatten = writesBytes (ss.flatMap Generated.propertyWrites) := by
  induction ps generalizing ss <;> cases ss <;> simp at hs
  case nil.nil => rfl
  case cons.cons p ps ih s ss =>
    rw [List.map_cons, List.flatten_cons, List.flatMap_cons, writesBytes_append,
      gen_propertyHeader p s hs.1 (hw p List.mem_cons_self), ih ss hs.2 fun q hq => hw q (List.mem_cons_of_mem _ hq)]

/-- `EntryStore::serialize_tail` with `Entry::serialize` and `Property::serialize`. The property count is the
    model's: `key_count()` contains a closure and is not translated. The tail writes the variants back to back and
    their number, so `hv` compares them flattened and `hlen` their count. -/
theorem gen_entryStoreTail (l : LayoutOut) (n : Nat) (srcC : List Generated.SrcProperty)
    (srcV : List (List Generated.SrcProperty))
    (hc : l.common.map RawProp.toSrc = srcC.map some)
    (hv : l.variants.flatten.map RawProp.toSrc = srcV.flatten.map some)
    (hlen : srcV.length = l.variants.length)
    (hw : ∀ p ∈ l.common ++ l.variants.flatten, p.HeaderWF) (hn : n < 2 ^ 32) :
    entryStoreTail l n = writesBytes (Generated.entryStoreTailWrites n
      (Generated.entryLayoutWrites l.entrySize (l.common ++ l.variants.flatten).length srcC srcV)) := by
  have h1 := gen_propertyHeaders l.common srcC hc (fun p hp => hw p (List.mem_append_left _ hp))
  have h2 := gen_propertyHeaders l.variants.flatten srcV.flatten hv (fun p hp => hw p (List.mem_append_right _ hp))
  have hfm : (srcV.flatMap fun v => v.flatMap Generated.propertyWrites) = srcV.flatten.flatMap Generated.propertyWrites := by
    rw [List.flatten_eq_flatMap, List.flatMap_assoc]; rfl
  have hn' : n % 4294967296 = n := Nat.mod_eq_of_lt (by simpa using hn)
  simp only [entryStoreTail, Generated.entryStoreTailWrites, Generated.entryLayoutWrites, List.nil_append, hn',
    writesBytes_append, List.map_append, List.flatten_append, h1, h2, hfm, hlen]
  simp [writesBytes_cons, writesBytes_nil, leBytes_one, UInt8.ofNat_mod_size']

/-- `PlainValueStore::key_size` and `IndexedValueStore::key_size` -/
theorem gen_keySize (s : VStore) :
    s.keySize = if s.indexed then Generated.indexedStoreKeySize s.values.length else Generated.plainStoreKeySize s.dataSize := by
  unfold VStore.keySize Generated.indexedStoreKeySize Generated.plainStoreKeySize
  simp [gen_neededBytes]

end Jubako
