/-
Ties of the creator's cluster (`creator/content_pack`) to the Rust bodies translated from the source on every
run (Generated/FuncsContent.lean).
-/
import JubakoModel.Model.ContentPack
import JubakoModel.Generated.FuncsContent
import JubakoModel.Lemmas.FuncsBytes
import JubakoModel.Lemmas.Offsets

namespace Jubako

theorem gen_clusterIsFull (c : Cluster) (size : Nat) :
    c.isFull size = Generated.clusterIsFull c.blobs.length c.compressed c.dataSize size := by
  unfold Cluster.isFull Generated.clusterIsFull
  by_cases h : c.blobs.length = Consts.maxBlobsPerCluster
  · simp [h]
  · have hne : (c.blobs.length == Consts.maxBlobsPerCluster) = false := by simpa using h
    simp only [hne, Bool.false_or, h, if_false]
    cases hc : c.compressed <;> cases hb : c.blobs with
    | nil => simp
    | cons x xs => simp

/-- `serialize_cluster_tail` (`creator/content_pack/clusterwriter.rs`): the three header fields are compared as
    values, what follows as a byte image -/
theorem gen_clusterTail (c : Cluster) (comp raw : Nat) :
    (c.tail comp raw).encode =
      (let r := Generated.clusterTailWrites comp c.blobs.length c.dataSize (endOffsets c.blobs 0) raw
       [UInt8.ofNat r.1.1, UInt8.ofNat r.1.2.1] ++ leBytes r.1.2.2 2 ++ writesBytes r.2) := by
  have hm : leBytes (c.blobs.length % 65536) 2 = leBytes c.blobs.length 2 := leBytes_mod c.blobs.length 2
  simp only [Generated.clusterTailWrites, gen_neededBytes, Option.getD_some, ClusterTail.encode, Cluster.tail,
    tailWidth, List.nil_append, List.append_nil, hm, writesBytes_append]
  simp [writesBytes, List.map_map, Function.comp_def]

/-- **`ClusterCreator::add_content` translated on every run is the cluster step of the creator model**: in a
    cluster that is not full, the new content gets the next blob index, the address returned is (cluster index,
    blob index), and the end offsets grow by the previous end plus the content's size — the offsets the tail
    of the cluster is written from (`endOffsets`).  The assertion on the blob count never fires below 4095
    blobs. -/
theorem gen_clusterAddContent (c : Cluster) (d : Bytes) (h : c.blobs.length < Consts.maxBlobsPerCluster) :
    Generated.clusterAddContent (endOffsets c.blobs 0) c.idx d.length =
      some (endOffsets (c.blobs ++ [d]) 0, (c.idx, c.blobs.length)) := by
  unfold Generated.clusterAddContent
  have hm : c.blobs.length % 65536 = c.blobs.length := Nat.mod_eq_of_lt (by simp [Consts.maxBlobsPerCluster] at h; omega)
  simp [endOffsets_length, h, hm, endOffsets_append]

end Jubako
