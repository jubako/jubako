/-
C04, non-vacuity: every main theorem of VerifiesPacks.lean and VerifiesContainer.lean instantiated on
concrete data, with every hypothesis discharged, for every hash function with 32-byte output.
-/
import JubakoModel.Lemmas.VerifiesContainer

namespace Jubako

namespace VerifiesExample

/-! ### content pack: the clusters of `ContentFileExample` (one raw cluster with two blobs, one
    compressed cluster), arriving in reverse order -/

open ContentFileExample (codec items arrival)

/-- uuid 5…5 (the directory pack below has uuid 7…7, the manifest 10…10) -/
def cmeta : ContentPackMeta := ⟨[1, 2, 3, 4], List.replicate 16 5, List.replicate 24 9⟩
def cinfos : List (Nat × Nat) := ((Creator.init.addAll items).finalize).2

theorem cmeta_wf : cmeta.WF := ⟨rfl, rfl, rfl⟩

theorem content_size : cfCheckPos codec arrival cinfos + 37 + 64 < 2 ^ 48 := by
  rw [cfCheckPos_eq]; decide

theorem content_limits (H : Bytes → Bytes) :
    (CreatedPack.content codec cmeta arrival cinfos).Limits H :=
  ⟨cmeta_wf, by decide, by decide, by have := content_size; omega⟩

example (H : Bytes → Bytes) (hH : ∀ x, (H x).length = 32) :
    packCheck H id (contentPackWrite H codec cmeta arrival cinfos) = .ok true :=
  (CreatedPack.verifiesAs H (.content codec cmeta arrival cinfos) (content_limits H) hH).check nofun

example (H : Bytes → Bytes) (hH : ∀ x, (H x).length = 32) :
    contentOpenCheck H (contentPackWrite H codec cmeta arrival cinfos) = .ok true :=
  (CreatedPack.verifiesAs H (.content codec cmeta arrival cinfos) (content_limits H) hH).openCheck

/-! ### directory pack: the input of `DirFileExample` (two value stores, variants, one index) -/

open DirFileExample (vendor uuid freeData input hstores hlayout limits_of)

theorem directory_limits (H : Bytes → Bytes) (hH : ∀ x, (H x).length = 32) :
    (CreatedPack.directory vendor uuid freeData input).Limits H :=
  ⟨rfl, rfl, rfl, by rw [hstores]; decide, by decide, (limits_of H hH).fileSize⟩

example (H : Bytes → Bytes) (hH : ∀ x, (H x).length = 32) :
    packCheck H id (dirPackWrite H vendor uuid freeData input) = .ok true :=
  directory_created_verifies H vendor uuid freeData input (limits_of H hH) hH

example (H : Bytes → Bytes) (hH : ∀ x, (H x).length = 32) :
    directoryOpenCheck H (dirPackWrite H vendor uuid freeData input) = .ok true :=
  (CreatedPack.verifiesAs H (.directory vendor uuid freeData input) (directory_limits H hH) hH).openCheck

/-! ### manifest pack: `ManifestPackCreator::finalize` for the two packs above (content pack
    added first, as `BasicCreator` does; empty locators = one-file container) -/

def mvendor : Bytes := [1, 2, 3, 4]
def muuid : Bytes := List.replicate 16 10
def mfree : Bytes := List.replicate 24 0

/-- sizes and stored hashes are arbitrary stand-ins: nothing below compares them with the packs; the two
    packs have different free data -/
def packData : List (PackData × Bytes) :=
  [(⟨List.replicate 16 5, 311, .content, 1, List.replicate 24 9, .blake3 (List.replicate 32 1)⟩, []),
   (⟨List.replicate 16 7, 403, .directory, 0, List.replicate 24 8, .blake3 (List.replicate 32 2)⟩, [])]

/-- what `finalize` computes: check-info blocks at 128 and 165 (37 bytes each, CRC included), free
    data ids = ranks in the sorted value store -/
theorem manifestInfos_packData :
    manifestInfos packData =
      [⟨List.replicate 16 5, 311, (128, 37), 1, .content, 0, 1, []⟩,
       ⟨List.replicate 16 7, 403, (165, 37), 0, .directory, 0, 0, []⟩] := by decide

theorem create_limits : ManifestCreateLimits mvendor muuid mfree packData where
  vendorLen := rfl
  uuidLen := rfl
  freeDataLen := rfl
  packsWF := by
    intro p hp
    simp only [packData, List.mem_cons, List.not_mem_nil, or_false] at hp
    rcases hp with rfl | rfl <;>
      exact ⟨rfl, by decide, by decide, by decide, fun x hx => by injection hx with hx; rw [← hx]; rfl⟩
  count := by decide
  storeTail := by decide
  fileSize := by
    rw [manifestInfos_packData]
    simp only [mwCheckPos, mwBase, mwMid, List.length_append, VStore.encode_eq, block_length,
      VStore.data_length]
    decide

example (H : Bytes → Bytes) :
    (manifestOpen (manifestCreate H mvendor muuid mfree packData)).map' (·.2.2) =
      .ok [⟨List.replicate 16 5, 311, (128, 37), 1, .content, 0, 1, []⟩,
           ⟨List.replicate 16 7, 403, (165, 37), 0, .directory, 0, 0, []⟩] := by
  rw [manifestOpen_manifestCreate create_limits (by decide), ← manifestInfos_packData]
  rfl

example (H : Bytes → Bytes) (hH : ∀ x, (H x).length = 32) :
    manifestCheck H (manifestCreate H mvendor muuid mfree packData) = .ok true :=
  manifestCreate_verifies create_limits hH

example (H : Bytes → Bytes) (hH : ∀ x, (H x).length = 32) :
    manifestOpenCheck H (manifestCreate H mvendor muuid mfree packData) = .ok true :=
  manifestCreate_openCheck create_limits (by decide) hH

example (H : Bytes → Bytes) :
    ∃ h m base, ManifestLayout (manifestCreate H mvendor muuid mfree packData) h m base
      (manifestInfos packData) :=
  ⟨_, _, _, manifestCreate_layout create_limits⟩

/-- the content pack is relocated twice, an unknown uuid is tried, the directory pack is relocated -/
example (H : Bytes → Bytes) (hH : ∀ x, (H x).length = 32) :
    manifestCheck H ([(List.replicate 16 5, [97, 98]), (List.replicate 16 99, [120]),
        (List.replicate 16 5, []), (List.replicate 16 7, [47, 100])].foldl
      (fun (st : Bytes × List PackInfo) op =>
        (fileStep (mwBase (checkBlocksOf packData) (manifestStore packData)) st.2 st.1 op,
          specStep st.2 op))
      (manifestCreate H mvendor muuid mfree packData, manifestInfos packData)).1 = .ok true :=
  manifestCreate_verifies_after_relocations create_limits hH _ (by decide)

example (H : Bytes → Bytes) (hH : ∀ x, (H x).length = 32) :
    ∃ f', setLocationAt (manifestCreate H mvendor muuid mfree packData) 0 (List.replicate 16 5)
        [97, 98] = .ok (f', some []) ∧ manifestCheck H f' = .ok true := by
  obtain ⟨f', h1, h2, -⟩ := manifest_created_set_location (H := H) create_limits.toLimits hH
    (List.replicate 16 5) [97, 98] (by decide)
  refine ⟨f', ?_, h2⟩
  rw [show manifestCreate H mvendor muuid mfree packData = manifestWrite H mvendor muuid mfree
    (checkBlocksOf packData) (manifestStore packData) (manifestInfos packData) from rfl, h1,
    manifestInfos_packData]
  rfl

/-! ### one-file container: content pack, directory pack, manifest — the order `BasicCreator`
    writes them in -/

def cuuid : Bytes := List.replicate 16 30
def cfree : Bytes := List.replicate 24 0

def theManifest : CreatedPack :=
  .manifest mvendor muuid mfree (checkBlocksOf packData) (manifestStore packData)
    (manifestInfos packData)

def cps : List CreatedPack :=
  [.content codec cmeta arrival cinfos, .directory vendor uuid freeData input, theManifest]

theorem manifest_limits (H : Bytes → Bytes) : theManifest.Limits H :=
  ⟨create_limits.toLimits, manifestInfos_any_directory packData (by decide)⟩

theorem packs_limits (H : Bytes → Bytes) (hH : ∀ x, (H x).length = 32) :
    ∀ p ∈ cps, p.Limits H := by
  intro p hp
  simp only [cps, List.mem_cons, List.not_mem_nil, or_false] at hp
  rcases hp with rfl | rfl | rfl
  · exact content_limits H
  · exact directory_limits H hH
  · exact manifest_limits H

theorem container_limits (H : Bytes → Bytes) (hH : ∀ x, (H x).length = 32) :
    ContainerLimits H cuuid cfree cps where
  uuidLen := rfl
  freeDataLen := rfl
  packs := packs_limits H hH
  count := by decide
  fileSize := by
    have hc : (contentPackWrite H codec cmeta arrival cinfos).length < 2 ^ 48 := by
      have := content_size
      rw [contentPackWrite_frame, framePack_length (cfHeader_frames codec cmeta arrival cinfos cmeta_wf
        (by omega)) hH]
      exact this
    have hd := (limits_of H hH).fileSize
    have hm : (manifestWrite H mvendor muuid mfree (checkBlocksOf packData) (manifestStore packData)
        (manifestInfos packData)).length < 2 ^ 48 := by
      rw [manifestWrite_length create_limits.toLimits hH]
      exact create_limits.fileSize
    rw [createdContainer, containerPackWrite_length cuuid cfree _ rfl rfl, cpwCheckPos,
      locTable_length _ (layoutLocs_uuid_length 0 _ (createdPacks_uuid_length (packs_limits H hH))),
      layoutLocs_length]
    simp only [createdPacks, cps, theManifest, CreatedPack.bytes, CreatedPack.uuid, cpwBody,
      List.map_cons, List.map_nil, List.flatten_cons, List.flatten_nil, List.length_append,
      List.length_nil, List.length_cons]
    omega

example (H : Bytes → Bytes) (hH : ∀ x, (H x).length = 32) :
    ∃ ps, blindOpen (createdContainer H cuuid cfree cps) = .ok ps ∧ ps.length = 3 ∧
      packsCheck H (createdContainer H cuuid cfree cps) ps = .ok true := by
  obtain ⟨h1, h2⟩ := created_container_pack_verifies (container_limits H hH) hH
  refine ⟨_, h1, ?_, h2⟩
  simp [packAts_length, createdPacks, cps]

example (H : Bytes → Bytes) (hH : ∀ x, (H x).length = 32) :
    ∃ c, containerOpen [("e", createdContainer H cuuid cfree cps)] "e" = .ok c ∧
      c.infos = manifestInfos packData ∧
      containerCheck H [("e", createdContainer H cuuid cfree cps)] c = .ok true := by
  obtain ⟨c, h1, h2, -, h4⟩ := created_container_opens_and_verifies (container_limits H hH) hH
    [("e", createdContainer H cuuid cfree cps)] "e" rfl mvendor muuid mfree (checkBlocksOf packData)
    (manifestStore packData) (manifestInfos packData)
    (by simp [cps, theManifest])
    (by
      intro p hp hk
      simp only [cps, List.mem_cons, List.not_mem_nil, or_false] at hp
      rcases hp with rfl | rfl | rfl
      · cases hk
      · cases hk
      · rfl)
    (by rw [manifestInfos_packData]; decide)
    (by rw [manifestInfos_packData]; decide)
    (by rw [manifestInfos_packData]; decide)
  exact ⟨c, h1, h2, h4⟩

end VerifiesExample

end Jubako
