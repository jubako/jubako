/-
`ByteSize::try_from` (`bases/types/byte_size.rs`) translated from the source on every run
(Generated/FuncsParse.lean): a size is 1..8. Apart so that FuncsCluster.lean need not import FuncsParse.lean.
-/
import JubakoModel.Generated.FuncsParse

namespace Jubako

theorem byteSizeTryFrom_eq (x : Nat) :
    Generated.byteSizeTryFrom x = if x = 0 ∨ x > 8 then .err .format else .ok x := by
  match x with
  | 0 | 1 | 2 | 3 | 4 | 5 | 6 | 7 | 8 => rfl
  | n + 9 =>
    rw [if_pos (by omega)]
    rfl

theorem byteSize_ok {x : Nat} (h0 : x ≠ 0) (h8 : x ≤ 8) : Generated.unwrapped (Generated.byteSizeTryFrom x) = .ok x := by
  rw [byteSizeTryFrom_eq, if_neg (by omega)]; rfl

theorem byteSize_succ {x : Nat} (h : x < 8) : Generated.unwrapped (Generated.byteSizeTryFrom (x + 1)) = .ok (x + 1) :=
  byteSize_ok (Nat.succ_ne_zero x) h

end Jubako
