/-
The open functions that face arbitrary bytes with no checksum in front of them answer a value or an
error, never a crash (behind C06).
-/
import JubakoModel.Lemmas.Container

namespace Jubako

theorem packHeaderOf_no_crash (b : Bytes) : (packHeaderOf b).isValueOrError = true :=
  bind_no_crash (readBlock_no_crash b 0 60) PackHeader.decode_no_crash

/-- the same for `packHeaderOf b >>= g`, in the association in which the `do` blocks of the model write it out -/
theorem packHeaderOf_then_no_crash {β} (b : Bytes) {g : PackHeader → Outcome β}
    (hg : ∀ h, (g h).isValueOrError = true) :
    (do let hd ← readBlock b 0 60; let h ← PackHeader.decode hd; g h).isValueOrError = true :=
  bind_no_crash (readBlock_no_crash b 0 60) fun hd => bind_no_crash (PackHeader.decode_no_crash hd) hg

theorem openHeader_no_crash (f : Bytes) (k : PackKind) : (openHeader f k).isValueOrError = true := by
  unfold openHeader
  refine packHeaderOf_then_no_crash f fun h => ?_
  split <;> rfl

/-- container-pack framing on arbitrary bytes -/
theorem containerPackOpen_no_crash (f : Bytes) (origin size : Nat) :
    (containerPackOpen f origin size).isValueOrError = true := by
  unfold containerPackOpen
  apply bind_no_crash (openHeader_no_crash _ _)
  intro h
  apply bind_no_crash (readBlock_no_crash _ _ _)
  intro cb
  apply bind_no_crash (ContainerHeader.decode_no_crash _)
  intro ch
  apply foldlM_no_crash
  intro acc k
  apply bind_no_crash (readBlock_no_crash _ _ _)
  intro lb
  apply bind_no_crash (PackLocator.decode_no_crash _)
  intro l
  split <;> rfl

/-- `bind_no_crash` for the bind that `blindOpen` writes out as a `match`; stated on that very
    `match`, downstream of `blindOpen`, so that `apply` finds it -/
theorem located_no_crash {β} (located : Outcome (PackHeader × Nat)) (hl : located.isValueOrError = true)
    (g : PackHeader → Nat → Outcome β) (hg : ∀ h o, (g h o).isValueOrError = true) :
    (match located with
      | .ok (h, origin) => g h origin
      | .err k => .err k
      | .panic s => .panic s
      | .hang => .hang
      | .fault => .fault).isValueOrError = true := by
  rcases (isValueOrError_iff _).1 hl with ⟨⟨h, o⟩, rfl⟩ | ⟨k, rfl⟩
  · exact hg h o
  · rfl

/-- the term `blindOpen` starts with: the header at 0, else the mirrored tail -/
theorem headerSearch_no_crash (f : Bytes) :
    (match (do let hd ← readBlock f 0 60; PackHeader.decode hd : Outcome PackHeader) with
      | .ok h => (.ok (h, 0) : Outcome (PackHeader × Nat))
      | e =>
        if f.length < 64 then e.map' (fun h => (h, 0))
        else do
          let hd ← readBlock (slice f (f.length - 64) 64).reverse 0 60
          let h ← PackHeader.decode hd
          if f.length < h.packSize then .err .format
          else .ok (h, f.length - h.packSize)).isValueOrError = true := by
  -- the first read cannot crash; only an error of it leads to the mirrored tail
  rcases (isValueOrError_iff _).1 (packHeaderOf_no_crash f) with ⟨h, hr⟩ | ⟨k, hr⟩ <;>
    rw [packHeaderOf] at hr <;> rw [hr]
  · rfl
  · simp only
    split
    · rfl
    · refine packHeaderOf_then_no_crash _ fun h => ?_
      split <;> rfl

theorem blindOpen_no_crash (f : Bytes) : (blindOpen f).isValueOrError = true := by
  unfold blindOpen
  simp only
  split
  · rfl
  · apply located_no_crash _ (headerSearch_no_crash f)
    intro h o
    split
    · split
      · exact containerPackOpen_no_crash _ _ _
      · rfl
    · rfl

theorem fsLocate_no_crash (fs : FS) (u : Bytes) (loc : String) :
    (fsLocate fs u loc).isValueOrError = true := by
  unfold fsLocate
  split
  · rfl
  · split
    · rfl
    · exact bind_no_crash (blindOpen_no_crash _) (fun _ => rfl)

end Jubako
