/-
One cluster: its tail codec, what the tail records for each blob, how the reader finds an encoded
cluster anywhere in a file; and clusters laid out one after another (`cfBytes`, `cfAddrs`: the two
components of `layoutClusters` in closed form).
-/
import JubakoModel.Lemmas.Offsets

namespace Jubako

def Cluster.WFTail (c : Cluster) (compByte rawSize : Nat) : Prop :=
  1 ≤ c.blobs.length ∧ c.blobs.length < 65536 ∧ compByte ≤ 3 ∧ c.dataSize < 2^64 ∧
  rawSize < 2^64 ∧ (compByte = 0 → rawSize = c.dataSize)

theorem tailWidth_fits (d r : Nat) :
    d < 256 ^ tailWidth d r ∧ r < 256 ^ tailWidth d r ∧ 1 ≤ tailWidth d r := by
  have h := neededBytes_spec (max d r)
  unfold tailWidth
  generalize neededBytes (max d r) = w at h ⊢
  generalize 256 ^ w = p at h ⊢
  omega

theorem tailWidth_le_8 (d r : Nat) (hd : d < 2^64) (hr : r < 2^64) : tailWidth d r ≤ 8 := by
  unfold tailWidth
  exact neededBytes_le_8 _ (by omega)

theorem clusterTail_decode_encode (t : ClusterTail) (hcomp : t.comp ≤ 3)
    (hw1 : 1 ≤ t.offsetSize) (hw8 : t.offsetSize ≤ 8) (hcount : t.blobCount < 65536)
    (hlen : t.offsets.length = t.blobCount - 1)
    (hraw : t.rawSize < 256 ^ t.offsetSize) (hdata : t.dataSize < 256 ^ t.offsetSize)
    (hoffs : ∀ o ∈ t.offsets, o ≤ t.dataSize) (hc : t.comp = 0 → t.rawSize = t.dataSize) :
    ClusterTail.decode t.encode = .ok t := by
  obtain ⟨comp, w, count, raw, data, offs⟩ := t
  simp only at hcomp hw1 hw8 hcount hlen hraw hdata hoffs hc
  -- the tail becomes an atom `bs`, known by the walk over its fields (the two header bytes are one segment
  -- `hd`), so that unfolding `decode` leaves `if`s about `bs` and not about five appended segments
  generalize hhd : [UInt8.ofNat comp, UInt8.ofNat w] = hd
  have hhl : hd.length = 2 := by subst hhd; rfl
  have c0 : ClusterTail.encode ⟨comp, w, count, raw, data, offs⟩ =
      hd ++ (leBytes count 2 ++ (leBytes raw w ++ (leBytes data w ++
        (offs.map (fun o => leBytes o w)).flatten))) := by
    simp only [ClusterTail.encode, hhd, List.append_assoc]
  generalize ClusterTail.encode ⟨comp, w, count, raw, data, offs⟩ = bs at c0 ⊢
  have h0 : (bs.getD 0 0).toNat = comp := by subst c0 hhd; simp; omega
  have h1 : (bs.getD 1 0).toNat = w := by subst c0 hhd; simp; omega
  have c2 : bs.drop 2 = _ := drop_skip_len (p := 0) c0 hhl
  have c4 : bs.drop 4 = _ := drop_skip_len c2 (leBytes_length count 2)
  have c5 := drop_skip_len c4 (leBytes_length raw w)
  have hbl := congrArg List.length c2
  rw [List.length_drop, List.length_append, leBytes_length] at hbl
  have hgo := offsets_go_spec bs w data (4 + 2 * w) _ hw1 (ClusterTail.decode.go bs w data)
    (fun _ _ => rfl) (fun _ _ _ => rfl) offs 0 []
    (by rw [show 4 + 2 * w + 0 * w = 4 + w + w by omega]; exact drop_skip_len c5 (leBytes_length data w))
    (fun o ho => ⟨hoffs o ho, Nat.lt_of_le_of_lt (hoffs o ho) hdata⟩)
  rw [hlen] at hgo
  unfold ClusterTail.decode
  rw [if_neg (by omega), h0, if_neg (by omega), h1, if_neg (by omega)]
  simp only [slice_of_drop c2 (leBytes_length count 2), leNat_leBytes_of_lt count 2 (by omega),
    readUN_of_drop c4 hw1 hraw, readUN_of_drop c5 hw1 hdata, hgo, Outcome.ok_bind]
  rw [if_neg (fun ⟨a, b⟩ => b (hc a))]
  rfl

theorem clusterTail_roundtrip (c : Cluster) (compByte rawSize : Nat)
    (hw : c.WFTail compByte rawSize) :
    ClusterTail.decode (c.tail compByte rawSize).encode = .ok (c.tail compByte rawSize) := by
  obtain ⟨h1, h2, h3, h4, h5, h6⟩ := hw
  obtain ⟨hf1, hf2, hf3⟩ := tailWidth_fits c.dataSize rawSize
  refine clusterTail_decode_encode _ h3 hf3 (tailWidth_le_8 _ _ h4 h5) h2 ?_ hf2 hf1 ?_ h6
  · simp only [Cluster.tail, List.length_dropLast, endOffsets_length]
  · intro o ho
    have hm : o ∈ endOffsets c.blobs 0 := List.dropLast_subset _ ho
    have := endOffsets_le_total c.blobs 0 o hm
    simp only [Cluster.tail, Cluster.dataSize]
    omega

theorem ClusterTail.encode_length (t : ClusterTail) :
    t.encode.length = 4 + 2 * t.offsetSize + t.offsets.length * t.offsetSize := by
  have := flatten_fixed_length t.offsets (fun o => leBytes o t.offsetSize) t.offsetSize
    (fun x => leBytes_length _ _)
  simp only [ClusterTail.encode, List.length_append, List.length_cons, List.length_nil,
    leBytes_length, this]
  rw [Nat.mul_comm t.offsetSize]
  omega

theorem Cluster.tail_encode_length_lt (c : Cluster) (cb raw : Nat) (hd : c.dataSize < 2 ^ 64)
    (hr : raw < 2 ^ 64) (hb : c.blobs.length ≤ 4095) :
    (c.tail cb raw).encode.length < 2 ^ 16 := by
  rw [ClusterTail.encode_length]
  have hw := tailWidth_le_8 c.dataSize raw hd hr
  have hl : (c.tail cb raw).offsets.length ≤ 4094 := by
    simp only [Cluster.tail, List.length_dropLast, endOffsets_length]; omega
  have hos : (c.tail cb raw).offsetSize = tailWidth c.dataSize raw := rfl
  rw [hos]
  have := Nat.mul_le_mul hl hw
  omega

/-- start of blob `blob` in the plain data, as `blobOf` computes it from the tail (`blobEnd`: its end) -/
def ClusterTail.blobStart (t : ClusterTail) (blob : Nat) : Nat :=
  (0 :: t.offsets ++ [t.dataSize]).getD blob 0

def ClusterTail.blobEnd (t : ClusterTail) (blob : Nat) : Nat :=
  (0 :: t.offsets ++ [t.dataSize]).getD (blob + 1) 0

/-- `blobOf t plain k` passes its checks and cuts out `d`; `StoredCompressed` ends with these five facts -/
def ClusterTail.HasBlob (t : ClusterTail) (plain : Bytes) (k : Nat) (d : Bytes) : Prop :=
  k < t.blobCount ∧ k ≤ t.offsets.length ∧ t.blobEnd k = t.blobStart k + d.length ∧
  t.blobEnd k ≤ plain.length ∧ slice plain (t.blobStart k) d.length = d

theorem ClusterTail.HasBlob.get {t : ClusterTail} {plain d : Bytes} {k : Nat}
    (h : t.HasBlob plain k d) : blobOf t plain k = .ok d := by
  obtain ⟨h2, h1, h3, h4, h5⟩ := h
  unfold ClusterTail.blobStart ClusterTail.blobEnd at *
  unfold blobOf
  simp only
  rw [if_pos ⟨by simp only [List.length_append, List.length_cons, List.length_nil]; omega, h2⟩,
    if_pos (by omega), if_pos h4, h3, Nat.add_sub_cancel_left, h5]

theorem Cluster.dataSize_eq (c : Cluster) : c.dataSize = lenSum c.blobs := rfl

theorem Cluster.data_length (c : Cluster) : c.data.length = c.dataSize := by
  rw [Cluster.data, lenSum_flatten, Cluster.dataSize_eq]

theorem tail_blob (c : Cluster) (cb raw : Nat) (k : Nat) (hk : k < c.blobs.length) :
    (c.tail cb raw).HasBlob c.data k c.blobs[k] := by
  have hne : c.blobs ≠ [] := by
    intro h; rw [h] at hk; simp at hk
  -- the bounds `blobOf` looks up are `0 :: endOffsets c.blobs 0`: the dropped last offset is the data size
  have hb : ∀ j ≤ c.blobs.length,
      (0 :: (c.tail cb raw).offsets ++ [(c.tail cb raw).dataSize]).getD j 0 = lenSum (c.blobs.take j) := by
    simp only [Cluster.tail, Cluster.dataSize_eq, List.cons_append,
      endOffsets_dropLast_append c.blobs hne]
    exact bounds_getD c.blobs
  have hs : (c.tail cb raw).blobStart k = lenSum (c.blobs.take k) := hb k (by omega)
  have he : (c.tail cb raw).blobEnd k = lenSum (c.blobs.take (k + 1)) := hb (k + 1) (by omega)
  obtain ⟨h1, h2, h3⟩ := flatten_segment c.blobs k hk
  refine ⟨hk, ?_, by rw [he, hs]; exact h1, ?_, by rw [hs]; exact h3⟩
  · simp only [Cluster.tail, List.length_dropLast, endOffsets_length]; omega
  · rw [he, Cluster.data_length, Cluster.dataSize_eq, h1]; exact h2

theorem blobOf_tail (c : Cluster) (compByte rawSize : Nat) (k : Nat) (hk : k < c.blobs.length) :
    blobOf (c.tail compByte rawSize) c.data k = .ok c.blobs[k] :=
  (tail_blob c compByte rawSize k hk).get

def Cluster.payload (codec : Codec) (c : Cluster) : Bytes :=
  if c.compressed then codec.compress c.data else c.data

def Cluster.storedTail (codec : Codec) (c : Cluster) : ClusterTail :=
  c.tail (if c.compressed then codec.byte else 0) (c.payload codec).length

theorem Cluster.encode_eq (codec : Codec) (c : Cluster) :
    c.encode codec =
      (c.payload codec ++ block (c.storedTail codec).encode, (c.payload codec).length,
       (c.storedTail codec).encode.length) :=
  rfl

theorem Cluster.payload_raw (codec : Codec) (c : Cluster) (h : c.compressed = false) :
    c.payload codec = c.data ∧ c.storedTail codec = c.tail 0 c.data.length := by
  simp [Cluster.storedTail, Cluster.payload, h]

theorem Cluster.payload_comp (codec : Codec) (c : Cluster) (h : c.compressed = true) :
    c.payload codec = codec.compress c.data ∧
      c.storedTail codec = c.tail codec.byte (codec.compress c.data).length := by
  simp [Cluster.storedTail, Cluster.payload, h]

theorem clusterAt_of_drop {f payload g : Bytes} {p : Nat} {t : ClusterTail}
    (h : f.drop p = payload ++ (block t.encode ++ g)) (hrt : ClusterTail.decode t.encode = .ok t)
    (hraw : t.rawSize = payload.length) :
    clusterAt f (p + payload.length, t.encode.length) = .ok (t, p) := by
  unfold clusterAt
  simp only [readBlock_of_drop (drop_skip h) rfl, hrt, Outcome.ok_bind, hraw]
  rw [if_neg (by omega), Nat.add_sub_cancel]

theorem clusterAt_encode (codec : Codec) (c : Cluster) (pre post : Bytes)
    (hw : c.WFTail (if c.compressed then codec.byte else 0) (c.payload codec).length) :
    clusterAt (pre ++ (c.encode codec).1 ++ post)
        (pre.length + (c.payload codec).length, (c.storedTail codec).encode.length) =
      .ok (c.storedTail codec, pre.length) := by
  rw [Cluster.encode_eq, List.append_assoc, List.append_assoc]
  exact clusterAt_of_drop (List.drop_left' rfl) (clusterTail_roundtrip c _ _ hw) rfl

theorem payload_slice (codec : Codec) (c : Cluster) (pre post : Bytes) :
    slice (pre ++ (c.encode codec).1 ++ post) pre.length (c.payload codec).length =
      c.payload codec := by
  rw [Cluster.encode_eq, List.append_assoc, List.append_assoc]
  exact slice_of_drop (List.drop_left' rfl) rfl

theorem Cluster.encode_fst_length (codec : Codec) (c : Cluster) :
    (c.encode codec).1.length = (c.encode codec).2.1 + ((c.encode codec).2.2 + 4) := by
  rw [Cluster.encode_eq]
  simp only [List.length_append, block_length]

def cfBytes (codec : Codec) (cs : List Cluster) : Bytes :=
  (cs.map (fun c => (c.encode codec).1)).flatten

/-- (cluster id, (tail position, tail size)) of the clusters laid out in order from `pos` -/
def cfAddrs (codec : Codec) : List Cluster → Nat → List (Nat × (Nat × Nat))
  | [], _ => []
  | c :: cs, pos =>
    (c.idx, (pos + (c.encode codec).2.1, (c.encode codec).2.2)) ::
      cfAddrs codec cs (pos + (c.encode codec).1.length)

theorem layoutClusters_eq (codec : Codec) (cs : List Cluster) (pos : Nat) :
    layoutClusters codec cs pos = (cfBytes codec cs, cfAddrs codec cs pos) := by
  induction cs generalizing pos with
  | nil => rfl
  | cons c cs ih =>
    simp only [layoutClusters, ih, cfBytes, cfAddrs, List.map_cons, List.flatten_cons]

theorem cfBytes_nil (codec : Codec) : cfBytes codec [] = [] := rfl

theorem cfBytes_cons (codec : Codec) (c : Cluster) (cs : List Cluster) :
    cfBytes codec (c :: cs) = (c.encode codec).1 ++ cfBytes codec cs := by
  simp [cfBytes]

theorem cfBytes_append (codec : Codec) (a b : List Cluster) :
    cfBytes codec (a ++ b) = cfBytes codec a ++ cfBytes codec b := by
  simp [cfBytes]

theorem cfAddrs_append (codec : Codec) (a b : List Cluster) (pos : Nat) :
    cfAddrs codec (a ++ b) pos =
      cfAddrs codec a pos ++ cfAddrs codec b (pos + (cfBytes codec a).length) := by
  induction a generalizing pos with
  | nil => rfl
  | cons c a ih =>
    simp only [List.cons_append, cfAddrs, ih, cfBytes_cons, List.length_append, Nat.add_assoc]

theorem lookupAddr_cfAddrs (codec : Codec) (l1 : List Cluster) (c : Cluster) (l2 : List Cluster)
    (pos : Nat) (hn : ∀ x ∈ l1, x.idx ≠ c.idx) :
    lookupAddr (cfAddrs codec (l1 ++ c :: l2) pos) c.idx =
      (pos + (cfBytes codec l1).length + (c.encode codec).2.1, (c.encode codec).2.2) := by
  have hnone : (cfAddrs codec l1 pos).find? (fun a => a.1 == c.idx) = none := by
    induction l1 generalizing pos with
    | nil => rfl
    | cons a l1 ih =>
      simp only [cfAddrs, List.find?_cons, beq_eq_false_iff_ne.2 (hn a (List.mem_cons_self ..))]
      exact ih _ (fun x hx => hn x (List.mem_cons_of_mem _ hx))
  simp [lookupAddr, cfAddrs_append, List.find?_append, hnone, cfAddrs]

end Jubako
