/-
Ties of the opening of files and packs (`reader/jubako.rs`, `reader/container_pack.rs`, the `new` of the pack
kinds, the `parse` of the headers in `common/`) to the Rust bodies translated from the source on every run
(Generated/FuncsOpen.lean). The header parsers are sequential in the source and positional in the model.
-/
import JubakoModel.Lemmas.Container
import JubakoModel.Generated.FuncsOpen
import JubakoModel.Lemmas.Codec
import JubakoModel.Lemmas.OutcomeLemmas
import JubakoModel.Lemmas.RawPropDecode

namespace Jubako

/-! The next theorem is the statement of `Outcome.bind_ok` (Lemmas/OutcomeLemmas.lean). -/

theorem Outcome.bind_ok'' {α β : Type} (a : α) (g : α → Outcome β) : (Outcome.ok a).bind g = g a := rfl

/-- `blindOpen` and `open_as_container_pack` single out a version error of the unchecked parse, each in its own
    nesting of `match`; otherwise both go on with the same thing -/
theorem versionGate_congr {α : Type} (u : Outcome PackHeader) {a b : Outcome α} (h : a = b) :
    (match u with
      | .err .version => (.err .version : Outcome α)
      | _ => a) =
    (match u with
      | .err e => (match e with | .version => (.err e : Outcome α) | _ => b)
      | _ => b) := by
  subst h
  cases u with
  | err k => cases k <;> rfl
  | _ => rfl

/-- **The blind open of the container model is the source's** (`open_as_container_pack` translated on every
    run, applied to the model's header parses, cut and container-pack open): a version mismatch of the header
    at 0 is reported first; a valid header at 0 wins; otherwise — unless the file is too small for a pack — the
    mirrored last 64 bytes are tried, a declared size beyond the file is a format error, and the pack starts at
    `file size − declared size`; a container pack is opened as such, any other pack becomes a one-pack
    container under its uuid. -/
theorem gen_blindOpen (f : Bytes) :
    blindOpen f =
      Generated.openAsContainerPack f.length
        (if f.length < 60 then .err .format else PackHeader.decode (f.take 60))
        (do let hd ← readBlock f 0 60; PackHeader.decode hd)
        (do let hd ← readBlock (slice f (f.length - 64) 64).reverse 0 60; PackHeader.decode hd)
        (fun origin size => if origin + size ≤ f.length then .ok (origin, size) else .err .format)
        (fun r => containerPackOpen f r.1 r.2)
        (fun r uuid => [⟨uuid, r.1, r.2⟩]) := by
  unfold blindOpen Generated.openAsContainerPack
  simp only [bind, Outcome.bind_assoc']
  generalize (if f.length < 60 then Outcome.err ErrKind.format else PackHeader.decode (f.take 60)) = unchecked
  -- The model retries with the tail on ANY outcome of the checked parse but a value (`| e => …`), the source only
  -- on `Err`: they agree because the checked parse never crashes (`hcNC`, used in the last case).
  have hcNC : ((readBlock f 0 60).bind fun hd => PackHeader.decode hd).isValueOrError = true :=
    bind_no_crash (readBlock_no_crash _ _ _) (fun hd => PackHeader.decode_no_crash hd)
  generalize ((readBlock f 0 60).bind fun hd => PackHeader.decode hd) = checked at hcNC
  generalize readBlock (slice f (f.length - 64) 64).reverse 0 60 = tb
  have body : ∀ (h : PackHeader) (origin : Nat),
      (if origin + h.packSize ≤ f.length then
          if h.kind = .container then containerPackOpen f origin h.packSize else .ok [⟨h.uuid, origin, h.packSize⟩]
        else .err .format) =
      (match h.kind with
        | PackKind.container =>
          ((if origin + h.packSize ≤ f.length then Outcome.ok (origin, h.packSize) else .err .format).bind fun r1 =>
            (containerPackOpen f r1.1 r1.2).bind fun r2 => .ok r2)
        | _ =>
          ((if origin + h.packSize ≤ f.length then Outcome.ok (origin, h.packSize) else .err .format).bind fun r3 =>
            .ok [⟨h.uuid, r3.1, r3.2⟩])) := by
    intro h origin
    by_cases hb : origin + h.packSize ≤ f.length
    · cases hk : h.kind <;> simp [hb, Outcome.bind] <;> (cases containerPackOpen f origin h.packSize <;> rfl)
    · cases hk : h.kind <;> simp [hb, Outcome.bind]
  refine versionGate_congr unchecked ?_
  cases checked with
  | ok h => exact body h 0
  | err e =>
    by_cases h64 : f.length < 64
    · simp only [h64, if_true]; rfl
    · simp only [h64, if_false]
      cases tb with
      | ok hd =>
        simp only [Outcome.bind_ok]
        cases PackHeader.decode hd with
        | ok h =>
          simp only [Outcome.bind_ok]
          by_cases hs : f.length < h.packSize
          · simp [hs]
          · simp only [hs, if_false, body h (f.length - h.packSize)]; rfl
        | _ => rfl
      | _ => rfl
  | _ => simp [Outcome.isValueOrError] at hcNC

def toAt (x : Bytes × (Nat × Nat)) : PackAt := ⟨x.1, x.2.1, x.2.2⟩

/-- the loop of `ContainerPack::new` from the `k`-th locator on (`packs_uuid` is not looked at) -/
theorem containerPackNew_loop_eq (g : Bytes) (origin lp : Nat) (ph : Outcome PackHeader) (chd : Outcome ContainerHeader) (n : Nat) :
    ∀ (k : Nat) (uu : List Bytes) (acc : List (Bytes × (Nat × Nat))),
      (Generated.containerPackNew_loop 36 ph chd
          (fun off => (readBlock g off 32).bind fun lb => PackLocator.decode lb)
          (fun pos sz => if pos + sz ≤ g.length then Outcome.ok (origin + pos, sz) else .err .format)
          (lp + k * 36) uu acc n).map' (fun r => r.2.2.map toAt) =
        (List.range' k n).foldlM (locStep g lp origin) (acc.map toAt) := by
  induction n with
  | zero => intro k uu acc; simp [Generated.containerPackNew_loop, Outcome.map', pure]
  | succ n ih =>
    intro k uu acc
    unfold Generated.containerPackNew_loop
    simp only [List.range'_succ, List.foldlM_cons, bind, locStep, Outcome.bind_assoc', Outcome.map'_bind]
    refine Outcome.bind_congr fun lb _ => Outcome.bind_congr fun l _ => ?_
    by_cases hb : l.pos + l.size ≤ g.length
    · simp only [hb, if_true, Outcome.bind_ok]
      have := ih (k + 1) (uu ++ [l.uuid]) (acc ++ [(l.uuid, origin + l.pos, l.size)])
      rw [show lp + (k + 1) * 36 = lp + k * 36 + 36 by omega] at this
      rw [this]
      simp [toAt]
    · simp [hb]

/-- **Reading a container pack follows the source**: `containerPackOpen` of the container model is
    `ContainerPack::new` (`reader/container_pack.rs`) as translated on every run — header of kind "container",
    container header, then `pack_count` locators read one after the other from `pack_locators_pos` in steps of
    the locator block size, each pack region cut (bounds-checked) out of the container — applied to the model's
    block reads; the translated loop recurses on the count, so it terminates. -/
theorem gen_containerPackOpen (f : Bytes) (origin size : Nat) :
    containerPackOpen f origin size =
      (Generated.containerPackNew 36
          (do let hd ← readBlock (slice f origin size) 0 60; PackHeader.decode hd)
          (do let cb ← readBlock (slice f origin size) 64 60; ContainerHeader.decode cb)
          (fun off => (readBlock (slice f origin size) off 32).bind fun lb => PackLocator.decode lb)
          (fun pos sz => if pos + sz ≤ (slice f origin size).length then Outcome.ok (origin + pos, sz) else .err .format)).map'
        (fun r => r.2.map toAt) := by
  unfold containerPackOpen Generated.containerPackNew openHeader
  simp only [bind, Outcome.bind_assoc', Outcome.map'_bind]
  refine Outcome.bind_congr fun hd _ => Outcome.bind_congr fun h _ => ?_
  by_cases hk : h.kind = PackKind.container
  · simp only [hk, if_true, ne_eq, not_true_eq_false, if_false, Outcome.bind_ok, Outcome.map'_bind]
    refine Outcome.bind_congr fun cb _ => Outcome.bind_congr fun ch _ => ?_
    have := containerPackNew_loop_eq (slice f origin size) origin ch.locatorsPos
      ((readBlock (slice f origin size) 0 60).bind fun hd => PackHeader.decode hd)
      ((readBlock (slice f origin size) 64 60).bind fun cb => ContainerHeader.decode cb) ch.packCount 0 [] []
    rw [Nat.zero_mul, Nat.add_zero, ← List.range_eq_range', Outcome.map'_eq_bind] at this
    exact this.symm
  · simp [hk]

/-- **Opening a content pack / a directory pack follows the source**: `contentOpen` and `directoryOpen` of the
    reader model are `ContentPack::new` and `DirectoryPack::new` as translated on every run — pack header of the
    right kind, the header of that kind, then the pointer tables (content infos of 4 bytes, every other table of
    8-byte sized offsets) read as one checked block each, in the source's order. -/
theorem gen_contentOpen (f : Bytes) :
    contentOpen f =
      Generated.contentPackNew ((readBlock f 0 60).bind fun hd => PackHeader.decode hd)
        ((readBlock f 64 60).bind fun cb => ContentHeader.decode cb)
        (fun w pos count => readBlock f pos (w * count)) := by
  unfold contentOpen Generated.contentPackNew openHeader
  simp only [bind, Outcome.bind_assoc']
  refine Outcome.bind_congr fun hd _ => Outcome.bind_congr fun h _ => ?_
  by_cases hk : h.kind = PackKind.content <;> simp [hk]

theorem gen_directoryOpen (f : Bytes) :
    directoryOpen f =
      Generated.directoryPackNew ((readBlock f 0 60).bind fun hd => PackHeader.decode hd)
        ((readBlock f 64 60).bind fun db => DirectoryHeader.decode db)
        (fun w pos count => readBlock f pos (w * count)) := by
  unfold directoryOpen Generated.directoryPackNew openHeader
  simp only [bind, Outcome.bind_assoc', Outcome.bind_ok]
  refine Outcome.bind_congr fun hd _ => Outcome.bind_congr fun h _ => ?_
  by_cases hk : h.kind = PackKind.directory <;> simp [hk]

theorem packKindParse_at (bs : Bytes) (o : Nat) (h : o < bs.length) :
    Generated.packKindParse (bs.drop o) =
      match PackKind.ofByte (bs.getD o 0) with
      | some k => .ok (k, bs.drop (o + 1))
      | none => .err .format := by
  unfold Generated.packKindParse
  rw [takeLE_at bs o 1 (by omega), leNat_slice_one bs o h]
  -- `PackKind.ofByte` compares the byte, the source its value
  simp only [Outcome.bind_ok, PackKind.ofByte, ← UInt8.toNat_inj]
  generalize (List.getD bs o 0).toNat = n
  split <;> simp_all

theorem fullPackKindParse_eq (bs : Bytes) :
    Generated.fullPackKindParse bs =
      (takeBytes bs 3).bind fun x => if x.1 ≠ ([106, 98, 107] : Bytes) then .err .format else Generated.packKindParse x.2 := rfl

def tupleToHeader (r : PackKind × Bytes × Nat × Nat × Bytes × Nat × Nat × Nat) : PackHeader :=
  ⟨r.1, r.2.1, r.2.2.1, r.2.2.2.1, r.2.2.2.2.1, r.2.2.2.2.2.1, r.2.2.2.2.2.2.1, r.2.2.2.2.2.2.2⟩

/-- **The pack header is parsed as the source parses it**: `PackHeader::parse` (with `FullPackKind::parse`),
    translated on every run into a sequential parser, is `PackHeader.decode` of the model on every 60-byte block
    (the size the reader always hands it): magic `jbk`, then the kind byte (m / d / c / C, anything else is a format
    error), vendor id, **then the version gate** — a version other than the current one is a version error whatever
    follows —, uuid, flags, sizes and positions little-endian, the padding skipped. -/
theorem gen_packHeaderParse (bs : Bytes) (h60 : bs.length = 60) :
    (Generated.packHeaderParse bs).map' (fun r => tupleToHeader r.1) = PackHeader.decode bs := by
  have k8 := leNat_slice_one bs 8 (by omega)
  have k9 := leNat_slice_one bs 9 (by omega)
  have k26 := leNat_slice_one bs 26 (by omega)
  have hs0 : slice bs 0 3 = bs.take 3 := by simp [slice]
  rw [parse_at_zero Generated.packHeaderParse]
  unfold Generated.packHeaderParse PackHeader.decode
  simp only [fullPackKindParse_eq, takeBytes_at, h60, Nat.reduceLeDiff, Nat.reduceLT, Outcome.bind_ok, if_false,
    Nat.zero_add, hs0]
  by_cases hm : bs.take 3 = [106, 98, 107]
  · simp only [hm, ne_eq, not_true_eq_false, if_false, packKindParse_at bs 3 (by omega)]
    cases PackKind.ofByte (bs.getD 3 0) with
    | none => rfl
    | some k =>
      simp only [Outcome.bind_ok, takeBytes_at, takeLE_at, h60, Nat.reduceAdd, Nat.reduceLeDiff, k8, k9, k26,
        Consts.versionGateMajor, Consts.versionGateMinor]
      by_cases hv : ((List.getD bs 8 0).toNat, (List.getD bs 9 0).toNat) = (0, 2)
      · simp only [hv, not_true_eq_false, if_false]; rfl
      · simp only [hv, not_false_eq_true, if_true]; rfl
  · simp only [hm, ne_eq, not_false_eq_true, if_true]; rfl

/-! The `parse` of `common/headers/{container,content,directory,manifest}_pack.rs` and of `common/pack_locator.rs`,
on every block of the size the reader hands them (60 bytes, 32 for a locator). -/

theorem gen_containerHeaderParse (bs : Bytes) (h60 : bs.length = 60) :
    (Generated.containerHeaderParse bs).map' (fun r => (⟨r.1.1, r.1.2.1, r.1.2.2⟩ : ContainerHeader)) = ContainerHeader.decode bs := by
  rw [parse_at_zero Generated.containerHeaderParse]
  simp only [Generated.containerHeaderParse, ContainerHeader.decode, takeLE_at, takeBytes_at, h60, Nat.reduceAdd, Nat.reduceLeDiff,
    Nat.reduceLT, Outcome.bind_ok, if_false, Nat.zero_add]
  rfl

theorem gen_contentHeaderParse (bs : Bytes) (h60 : bs.length = 60) :
    (Generated.contentHeaderParse bs).map' (fun r => (⟨r.1.1, r.1.2.1, r.1.2.2.1, r.1.2.2.2.1, r.1.2.2.2.2⟩ : ContentHeader)) =
      ContentHeader.decode bs := by
  rw [parse_at_zero Generated.contentHeaderParse]
  simp only [Generated.contentHeaderParse, ContentHeader.decode, takeLE_at, takeBytes_at, h60, Nat.reduceAdd, Nat.reduceLeDiff,
    Nat.reduceLT, Outcome.bind_ok, if_false, Nat.zero_add]
  rfl

theorem gen_directoryHeaderParse (bs : Bytes) (h60 : bs.length = 60) :
    (Generated.directoryHeaderParse bs).map'
        (fun r => (⟨r.1.1, r.1.2.1, r.1.2.2.1, r.1.2.2.2.1, r.1.2.2.2.2.1, r.1.2.2.2.2.2.1, r.1.2.2.2.2.2.2⟩ : DirectoryHeader)) =
      DirectoryHeader.decode bs := by
  rw [parse_at_zero Generated.directoryHeaderParse]
  simp only [Generated.directoryHeaderParse, DirectoryHeader.decode, takeLE_at, takeBytes_at, h60, Nat.reduceAdd, Nat.reduceLeDiff,
    Nat.reduceLT, Outcome.bind_ok, if_false, Nat.zero_add]
  rfl

theorem gen_manifestHeaderParse (bs : Bytes) (h60 : bs.length = 60) :
    (Generated.manifestHeaderParse bs).map' (fun r => (⟨r.1.1, (r.1.2.1 / 65536, r.1.2.1 % 65536), r.1.2.2⟩ : ManifestHeader)) =
      ManifestHeader.decode bs := by
  rw [parse_at_zero Generated.manifestHeaderParse]
  simp only [Generated.manifestHeaderParse, ManifestHeader.decode, takeLE_at, takeBytes_at, h60, Nat.reduceAdd, Nat.reduceLeDiff,
    Nat.reduceLT, Outcome.bind_ok, if_false, Nat.zero_add, sizedOffsetDecode]
  rfl

theorem gen_packLocatorParse (bs : Bytes) (h32 : bs.length = 32) :
    (Generated.packLocatorParse bs).map' (fun r => (⟨r.1.1, r.1.2.1, r.1.2.2⟩ : PackLocator)) = PackLocator.decode bs := by
  rw [parse_at_zero Generated.packLocatorParse]
  simp only [Generated.packLocatorParse, PackLocator.decode, takeLE_at, takeBytes_at, h32, Nat.reduceAdd, Nat.reduceLeDiff,
    Nat.reduceLT, Outcome.bind_ok, if_false, Nat.zero_add]
  rfl

def tupleToInfo (r : Bytes × Nat × Nat × Nat × PackKind × Nat × Nat × Bytes) : PackInfo :=
  ⟨r.1, r.2.1, (r.2.2.1 / 65536, r.2.2.1 % 65536), r.2.2.2.1, r.2.2.2.2.1, r.2.2.2.2.2.1, r.2.2.2.2.2.2.1, r.2.2.2.2.2.2.2⟩

/-- **A pack info is parsed as the source parses it**: `PackInfo::parse` (with `PackKind::parse`), translated
    on every run into a sequential parser — uuid, size, check-info position, pack id, kind byte, group, free-data
    id, then the location as a p-string **and the rest of the 213-byte field skipped** — is `PackInfo.decode` of
    the model on every 252-byte block.  A length byte beyond the field is a format error of the p-string read;
    the subtraction `213 - len` (a panic on underflow in the translation) is never reached with a negative
    result. -/
theorem gen_packInfoParse (bs : Bytes) (h252 : bs.length = 252) :
    (Generated.packInfoParse bs).map' (fun r => tupleToInfo r.1) = PackInfo.decode bs := by
  have t34 := packKindParse_at bs 34 (by omega)
  have t38 := takePString_at bs 38 (by omega)
  have k35 := leNat_slice_one bs 35 (by omega)
  simp only [Nat.reduceAdd, h252, Nat.reduceSub] at t34 t38
  rw [parse_at_zero Generated.packInfoParse]
  unfold Generated.packInfoParse PackInfo.decode
  simp only [takeLE_at, takeBytes_at, h252, Nat.reduceAdd, Nat.reduceLeDiff, Nat.reduceLT, Outcome.bind_ok, if_false,
    Nat.zero_add, t34]
  cases hk : PackKind.ofByte (List.getD bs 34 0) with
  | none => rfl
  | some kind =>
    simp only [Outcome.bind_ok, takeLE_at, h252, Nat.reduceAdd, Nat.reduceLeDiff, k35, t38]
    generalize hL : (List.getD bs 38 0).toNat = L
    by_cases hl : L ≤ 213
    · have hl' : ¬ L > Consts.locationSkip := by simp only [Consts.locationSkip]; omega
      have hsl : (slice bs 39 L).length = L := by
        simp only [slice, List.length_take, List.length_drop, h252]; omega
      have tsk := takeBytes_at bs (39 + L) (213 - L) (by omega)
      simp only [hl, hl', if_true, if_false, Outcome.bind_ok, hsl, tsk, sizedOffsetDecode]
      rfl
    · have hl' : L > Consts.locationSkip := by simp only [Consts.locationSkip]; omega
      simp only [hl, hl', if_true, if_false]
      rfl

/-- the fixed-width wrappers: `Count<u8|u16|u32|u64>::parse`, `Size::parse`, `Offset::parse`, translated on every run,
    are little-endian reads of 1, 2, 4, 8, 8 and 8 bytes — what the tables of the other targets write for a call to
    them (`takeLE bs w`). -/
theorem gen_fixedWidthParsers (bs : Bytes) :
    Generated.countU8Parse bs = takeLE bs 1 ∧ Generated.countU16Parse bs = takeLE bs 2 ∧
    Generated.countU32Parse bs = takeLE bs 4 ∧ Generated.countU64Parse bs = takeLE bs 8 ∧
    Generated.sizeParse bs = takeLE bs 8 ∧ Generated.offsetParse bs = takeLE bs 8 :=
  ⟨Outcome.bind_ok_right _, Outcome.bind_ok_right _, Outcome.bind_ok_right _, Outcome.bind_ok_right _, Outcome.bind_ok_right _, Outcome.bind_ok_right _⟩

/-- the index and identifier wrappers: `Idx<u8|u16|u32|u64>::parse`, `Id<u8|u16>::parse`, translated on every run, are
    little-endian reads of 1, 2, 4, 8 and 1, 2 bytes. -/
theorem gen_indexWrappers (bs : Bytes) :
    Generated.idxU8Parse bs = takeLE bs 1 ∧ Generated.idxU16Parse bs = takeLE bs 2 ∧
    Generated.idxU32Parse bs = takeLE bs 4 ∧ Generated.idxU64Parse bs = takeLE bs 8 ∧
    Generated.idU8Parse bs = takeLE bs 1 ∧ Generated.idU16Parse bs = takeLE bs 2 :=
  ⟨Outcome.bind_ok_right _, Outcome.bind_ok_right _, Outcome.bind_ok_right _, Outcome.bind_ok_right _, Outcome.bind_ok_right _, Outcome.bind_ok_right _⟩

end Jubako
