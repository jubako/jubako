/-
Directory pack, file-level round trip: the layout header of an entry store.  `Layout.decode` on the
bytes `entryStoreTail` writes returns the written layout (`layoutOf`): the property list and the
variant delimiter logic (`splitVariants`); the offsets stay the model's own `placeProps`.
-/
import JubakoModel.Lemmas.DirCodec

namespace Jubako

theorem rawLayoutDecode.go_encode (ps : List RawProp) (rest : Bytes) (acc : List RawProp)
    (hw : ∀ p ∈ ps, p.Writable) :
    rawLayoutDecode.go ps.length ((ps.map RawProp.encode).flatten ++ rest) acc =
      .ok (acc.reverse ++ ps) := by
  induction ps generalizing acc with
  | nil => simp [rawLayoutDecode.go]
  | cons p ps ih =>
    have h1 := rawProp_roundtrip p ((ps.map RawProp.encode).flatten ++ rest)
      (hw p (List.mem_cons_self ..))
    have ih' := ih (p :: acc) (fun q hq => hw q (List.mem_cons_of_mem _ hq))
    simp only [List.length_cons, List.map_cons, List.flatten_cons, List.append_assoc,
      rawLayoutDecode.go, h1, Outcome.ok_bind, ih', List.reverse_cons, List.singleton_append]

/-- `hl`: the property count is one byte -/
theorem rawLayoutDecode_encode (ps : List RawProp) (hw : ∀ p ∈ ps, p.Writable)
    (hl : ps.length < 256) :
    rawLayoutDecode (UInt8.ofNat ps.length :: (ps.map RawProp.encode).flatten) = .ok ps := by
  have := rawLayoutDecode.go_encode ps [] [] hw
  simp only [List.append_nil, List.reverse_nil, List.nil_append] at this
  simp only [rawLayoutDecode, toNat_ofNat_u8, Nat.mod_eq_of_lt hl, this]

def vidProp (vn : Bytes) : RawProp := ⟨1, vn, .variantId⟩

def rawVariants (vars : List (Bytes × List RawProp)) : List (List RawProp) :=
  vars.map (fun b => vidProp b.1 :: b.2)

theorem rawVariants_getD (vars : List (Bytes × List RawProp)) (vi : Nat) (nm : Bytes)
    (b : List RawProp) (h : vars[vi]? = some (nm, b)) :
    (rawVariants vars).getD vi [] = vidProp nm :: b := by
  simp only [rawVariants, List.getD_eq_getElem?_getD, List.getElem?_map, h]
  rfl

/-- `Layout.decode` and `splitVariants` write the sum out; the lemmas say `propsSize` -/
theorem propsSize_eq_sum (ps : List RawProp) : propsSize ps = (ps.map (·.size)).sum := rfl

theorem propsSize_nil : propsSize [] = 0 := rfl

theorem propsSize_cons (p : RawProp) (ps : List RawProp) :
    propsSize (p :: ps) = p.size + propsSize ps := by simp [propsSize]

theorem propsSize_append (a b : List RawProp) : propsSize (a ++ b) = propsSize a + propsSize b := by
  simp [propsSize]

theorem propsSize_reverse (a : List RawProp) : propsSize a.reverse = propsSize a := by
  rw [propsSize, List.map_reverse, List.sum_reverse_nat]; rfl

theorem splitVariants_body (space base : Nat) (body rest : List RawProp) (nm : Bytes)
    (ps : List RawProp) (acc : List (Bytes × List PropAt))
    (hb : ∀ p ∈ body, p.kind ≠ .variantId) (hs : propsSize ps + propsSize body ≤ space) :
    splitVariants space base (body ++ rest) (some (nm, ps)) acc =
      splitVariants space base rest (some (nm, body.reverse ++ ps)) acc := by
  induction body generalizing ps with
  | nil => simp
  | cons p body ih =>
    have hp : isVariantId p = false := by
      simp [isVariantId, hb p (List.mem_cons_self ..)]
    rw [propsSize_cons] at hs
    have hns : ¬ (ps.map (·.size)).sum + p.size > space := by
      rw [← propsSize_eq_sum]; omega
    have ih' := ih (p :: ps) (fun q hq => hb q (List.mem_cons_of_mem _ hq))
      (by rw [propsSize_cons]; omega)
    simp only [List.cons_append, splitVariants, hp, Bool.false_eq_true, if_false, hns, ih',
      List.reverse_cons, List.append_assoc, List.nil_append]

/-- the closed variants once the one being read, if any, is closed too -/
def closeCur (base : Nat) (cur : Option (Bytes × List RawProp)) (acc : List (Bytes × List PropAt)) :
    List (Bytes × List PropAt) :=
  match cur with
  | none => acc
  | some (nm, ps) => (nm, placeProps base ps.reverse) :: acc

/-- `splitVariants_rawVariants` for any variant being read (`cur`) and any variants already closed
    (`acc`), so that the induction on `vars` goes through -/
theorem splitVariants_vars (space base : Nat) (vars : List (Bytes × List RawProp))
    (cur : Option (Bytes × List RawProp)) (acc : List (Bytes × List PropAt))
    (hv : ∀ b ∈ vars, (∀ p ∈ b.2, p.kind ≠ .variantId) ∧ propsSize b.2 = space)
    (hc : ∀ nm ps, cur = some (nm, ps) → propsSize ps = space) :
    splitVariants space base (rawVariants vars).flatten cur acc =
      .ok ((closeCur base cur acc).reverse ++ vars.map (fun b => (b.1, placeProps base b.2))) := by
  induction vars generalizing cur acc with
  | nil =>
    cases cur with
    | none => simp [rawVariants, splitVariants, closeCur]
    | some c =>
      obtain ⟨nm, ps⟩ := c
      have := hc nm ps rfl
      rw [propsSize_eq_sum] at this
      simp [rawVariants, splitVariants, closeCur, this]
  | cons b vars ih =>
    obtain ⟨hb1, hb2⟩ := hv b (List.mem_cons_self ..)
    have hv' : ∀ b' ∈ vars, (∀ p ∈ b'.2, p.kind ≠ .variantId) ∧ propsSize b'.2 = space :=
      fun b' hb' => hv b' (List.mem_cons_of_mem _ hb')
    have hstep : splitVariants space base (rawVariants (b :: vars)).flatten cur acc =
        splitVariants space base (b.2 ++ (rawVariants vars).flatten) (some (b.1, []))
          (closeCur base cur acc) := by
      have hvid : isVariantId (vidProp b.1) = true := by simp [isVariantId, vidProp]
      cases cur with
      | none =>
        simp only [rawVariants, List.map_cons, List.flatten_cons, List.cons_append, splitVariants,
          hvid, if_true, closeCur]
        rfl
      | some c =>
        obtain ⟨nm, ps⟩ := c
        have h' := hc nm ps rfl
        rw [propsSize_eq_sum] at h'
        simp only [rawVariants, List.map_cons, List.flatten_cons, List.cons_append, splitVariants,
          hvid, if_true, closeCur, h']
        rfl
    rw [hstep, splitVariants_body space base b.2 _ b.1 [] _ hb1 (by rw [propsSize_nil]; omega),
      List.append_nil, ih _ _ hv' (by
        intro nm ps h
        simp only [Option.some.injEq, Prod.mk.injEq] at h
        rw [← h.2, propsSize_reverse]; exact hb2)]
    simp only [closeCur, List.reverse_reverse, List.reverse_cons, List.append_assoc,
      List.singleton_append, List.map_cons]

theorem splitVariants_rawVariants (space base : Nat) (vars : List (Bytes × List RawProp))
    (hv : ∀ b ∈ vars, (∀ p ∈ b.2, p.kind ≠ .variantId) ∧ propsSize b.2 = space) :
    splitVariants space base (rawVariants vars).flatten none [] =
      .ok (vars.map (fun b => (b.1, placeProps base b.2))) := by
  have := splitVariants_vars space base vars none [] hv (by intro nm ps h; cases h)
  simpa [closeCur] using this

theorem takeWhile_common (common rest : List RawProp) (hc : ∀ p ∈ common, p.kind ≠ .variantId)
    (hr : rest = [] ∨ ∃ p tl, rest = p :: tl ∧ isVariantId p = true) :
    (common ++ rest).takeWhile (fun p => !isVariantId p) = common ∧
    (common ++ rest).dropWhile (fun p => !isVariantId p) = rest := by
  have hq : ∀ p ∈ common, (!isVariantId p) = true := fun p hp => by simp [isVariantId, hc p hp]
  rw [List.takeWhile_append_of_pos hq, List.dropWhile_append_of_pos hq]
  rcases hr with rfl | ⟨p, tl, rfl, hp⟩
  · simp
  · simp [hp]

/-- Nested to the right, field by field, so that `takeLE_leBytes` and `takeLE_one` apply to the head
    of what is left without reassociating. -/
def layoutBytes (l : LayoutOut) (n : Nat) : Bytes :=
  leBytes n 4 ++ ([0] ++ (leBytes l.entrySize 2 ++ ([UInt8.ofNat l.variants.length] ++
    (UInt8.ofNat (l.common ++ l.variants.flatten).length ::
      ((l.common ++ l.variants.flatten).map RawProp.encode).flatten))))

theorem entryStoreTail_eq (l : LayoutOut) (n : Nat) : entryStoreTail l n = 0 :: layoutBytes l n := by
  simp [entryStoreTail, layoutBytes]

def layoutOf (common : List RawProp) (vars : List (Bytes × List RawProp)) (entrySize n : Nat) :
    Layout :=
  ⟨n, false, entrySize, placeProps 0 common,
    if vars.length ≠ 0 then some (propsSize common) else none,
    vars.map (fun b => (b.1, placeProps (propsSize common + 1) b.2))⟩

/-- Field widths of the layout header: the entry count is a `u32` (`hn`), the entry size a `u16`
    (`hes`), the variant count and the property count (every variant's `VariantId` and padding
    included) one byte each (`hvc`, `hpc`). -/
theorem Layout_decode_layoutBytes (common : List RawProp) (vars : List (Bytes × List RawProp))
    (entrySize n : Nat)
    (hcw : ∀ p ∈ common, p.Writable ∧ p.kind ≠ .variantId)
    (hvw : ∀ b ∈ vars, b.1.length ≤ 255 ∧ (∀ p ∈ b.2, p.Writable ∧ p.kind ≠ .variantId) ∧
      propsSize common + 1 + propsSize b.2 = entrySize)
    (hn : n < 2 ^ 32) (hes : entrySize < 2 ^ 16) (hvc : vars.length < 256)
    (hpc : (common ++ (rawVariants vars).flatten).length < 256) :
    Layout.decode (layoutBytes ⟨common, rawVariants vars, entrySize⟩ n) =
      .ok (layoutOf common vars entrySize n) := by
  have hwall : ∀ p ∈ common ++ (rawVariants vars).flatten, p.Writable := by
    intro p hp
    rcases List.mem_append.1 hp with hp | hp
    · exact (hcw p hp).1
    · obtain ⟨v, hv, hpv⟩ := List.mem_flatten.1 hp
      obtain ⟨b, hb, rfl⟩ := List.mem_map.1 hv
      rcases List.mem_cons.1 hpv with rfl | hpv
      · exact ⟨(hvw b hb).1, rfl⟩
      · exact ((hvw b hb).2.1 p hpv).1
  have hraw := rawLayoutDecode_encode _ hwall hpc
  have htw := takeWhile_common common (rawVariants vars).flatten (fun p hp => (hcw p hp).2) (by
    cases vars with
    | nil => left; rfl
    | cons b vars => right; exact ⟨vidProp b.1, _, rfl, by simp [isVariantId, vidProp]⟩)
  have hvl : (rawVariants vars).length = vars.length := by simp [rawVariants]
  unfold Layout.decode layoutBytes
  simp only [takeLE_leBytes, Outcome.ok_bind, List.singleton_append, takeLE_one, hraw, htw.1, htw.2,
    hvl, toNat_ofNat_u8, Nat.mod_eq_of_lt hvc, Nat.mod_eq_of_lt (hn : n < 256 ^ 4),
    Nat.mod_eq_of_lt (hes : entrySize < 256 ^ 2)]
  by_cases h0 : vars.length = 0
  · have : vars = [] := List.eq_nil_of_length_eq_zero h0
    subst this
    simp [layoutOf]
  · have hsz : ¬ entrySize < propsSize common + 1 := by
      obtain ⟨b, hb⟩ := List.exists_mem_of_length_pos (Nat.pos_of_ne_zero h0)
      have := (hvw b hb).2.2
      omega
    have hsv := splitVariants_rawVariants (entrySize - (propsSize common + 1)) (propsSize common + 1)
      vars (by
        intro b hb
        obtain ⟨-, h2', h3'⟩ := hvw b hb
        exact ⟨fun p hp => (h2' p hp).2, by omega⟩)
    simp only [ne_eq, h0, not_false_eq_true, if_true, if_false, ← propsSize_eq_sum, hsv, Outcome.ok_bind,
      List.length_map, not_true_eq_false, layoutOf]
    rw [if_neg hsz]
    rfl

end Jubako
