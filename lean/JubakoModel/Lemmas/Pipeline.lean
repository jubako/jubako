/-
The cluster pipeline (`Model/Pipeline.lean`) under every schedule: what one step does to the measure, to
the back-pressure counter, to the clusters in flight and to the written layout; `pipe_reach` collects it.
-/
import JubakoModel.Model.Pipeline
import JubakoModel.Lemmas.Run
import JubakoModel.Lemmas.Cluster

namespace Jubako

theorem Pipe.isRun (codec : Codec) : IsRun (Pipe.step codec) (Pipe.run codec) :=
  ⟨fun _ => rfl, fun _ _ _ => rfl⟩

theorem sum_map_set {α} {l : List α} {w : Nat} {y : α} (x : α) (f : α → Nat) (h : l[w]? = some y) :
    ((l.set w x).map f).sum + f y = (l.map f).sum + f x := by
  induction l generalizing w with
  | nil => simp at h
  | cons a l ih =>
    cases w with
    | zero =>
      simp at h; subst h; simp; omega
    | succ w =>
      simp at h
      have := ih h
      simp only [List.set, List.map_cons, List.sum_cons]; omega

theorem forall_mem_concat {α} {P : α → Prop} {l : List α} {y : α} (h : ∀ x ∈ l, P x) (hy : P y) :
    ∀ x ∈ l ++ [y], P x :=
  List.forall_mem_append.2 ⟨h, List.forall_mem_singleton.2 hy⟩

/-- (bytes the writer appends, offset of the tail block in them, size of the tail): a raw cluster is encoded by the
    writer itself, a compressed one arrives encoded -/
def WTask.payload (codec : Codec) : WTask → Bytes × Nat × Nat
  | .raw c => { c with compressed := false }.encode codec
  | .compressed _ bytes rel tlen => (bytes, rel, tlen)

/-- Case analysis on an enabled step: one hypothesis per way a step succeeds, with the successor state written
    out.  The two `.write` arms of `Pipe.step` are one case through `WTask.payload`. -/
theorem pipe_step_elim {codec : Codec} {s s' : Pipe} {a : PAct} (h : s.step codec a = some s')
    {motive : Pipe → Prop}
    (sendC : ∀ c rest, s.todo = c :: rest → (c.compressed && codec.byte != 0) = true →
      s.count < s.maxQ →
      motive { s with todo := rest, dispatchQ := s.dispatchQ ++ [c], count := s.count + 1 })
    (sendR : ∀ c rest, s.todo = c :: rest → (c.compressed && codec.byte != 0) = false →
      motive { s with todo := rest, fusionQ := s.fusionQ ++ [.raw c] })
    (take : ∀ w c rest, s.workers[w]? = some .idle → s.dispatchQ = c :: rest →
      motive { s with workers := s.workers.set w (.busy c), dispatchQ := rest })
    (finish : ∀ w c, s.workers[w]? = some (.busy c) →
      motive { s with workers := s.workers.set w .sent,
                      fusionQ := s.fusionQ ++ [.compressed c (c.encode codec).1
                        (c.encode codec).2.1 (c.encode codec).2.2] })
    (release : ∀ w, s.workers[w]? = some .sent →
      motive { s with workers := s.workers.set w .idle, count := s.count - 1 })
    (write : ∀ t rest, s.fusionQ = t :: rest →
      motive { s with fusionQ := rest, out := s.out ++ (t.payload codec).1,
                      addresses := s.addresses ++
                        [(t.cluster.idx, (s.base + s.out.length + (t.payload codec).2.1, (t.payload codec).2.2))],
                      done := s.done ++ [t.cluster] }) :
    motive s' := by
  cases a with
  | mainSend =>
    simp only [Pipe.step] at h
    split at h
    · simp at h
    · rename_i c rest ht
      split at h
      · rename_i hc
        split at h
        · rename_i hlt
          simp at h; subst h; exact sendC c rest ht hc hlt
        · simp at h
      · rename_i hc
        simp at h; subst h
        exact sendR c rest ht (by simpa using hc)
  | take w =>
    simp only [Pipe.step] at h
    split at h
    · rename_i c rest hw hd
      simp at h; subst h; exact take w c rest hw hd
    · simp at h
  | finish w =>
    simp only [Pipe.step] at h
    split at h
    · rename_i c hw
      simp at h; subst h; exact finish w c hw
    · simp at h
  | release w =>
    simp only [Pipe.step] at h
    split at h
    · rename_i hw
      simp at h; subst h; exact release w hw
    · simp at h
  | write =>
    simp only [Pipe.step] at h
    split at h
    · simp at h
    · rename_i t rest hf
      cases t <;> (simp at h; subst h; exact write _ rest hf)

/-- `Pipe.measure` charges a cluster for the steps still before it: to be handed over 6, in the dispatch
    queue 5, with a worker 4, sent 1 (the worker's release) + 2 (the task in the fusion queue). -/
theorem pipe_measure_decreases {codec : Codec} {s s' : Pipe} {a : PAct}
    (h : s.step codec a = some s') : s'.measure < s.measure := by
  refine pipe_step_elim h (motive := fun t => t.measure < s.measure) ?_ ?_ ?_ ?_ ?_ ?_
  · intro c rest ht hc hlt
    simp [Pipe.measure, ht]; omega
  · intro c rest ht hc
    simp [Pipe.measure, ht]; omega
  · intro w c rest hw hd
    have := sum_map_set (.busy c) Worker.weight hw
    simp [Pipe.measure, hd, Worker.weight] at this ⊢; omega
  · intro w c hw
    have := sum_map_set .sent Worker.weight hw
    simp [Pipe.measure, Worker.weight] at this ⊢; omega
  · intro w hw
    have := sum_map_set .idle Worker.weight hw
    simp [Pipe.measure, Worker.weight] at this ⊢; omega
  · intro t rest hf
    simp [Pipe.measure, hf]

theorem pipe_step_frame {codec : Codec} {s s' : Pipe} {a : PAct} (h : s.step codec a = some s') :
    s'.maxQ = s.maxQ ∧ s'.workers.length = s.workers.length := by
  refine pipe_step_elim h (motive := fun t => t.maxQ = s.maxQ ∧ t.workers.length = s.workers.length)
    ?_ ?_ ?_ ?_ ?_ ?_ <;> intros <;> simp

theorem pipe_inv_init (cs : List Cluster) (n : Nat) : (Pipe.init cs n).Inv := by
  simp [Pipe.Inv, Pipe.init, Worker.holds]

theorem pipe_inv_step {codec : Codec} {s s' : Pipe} {a : PAct} (hi : s.Inv)
    (h : s.step codec a = some s') : s'.Inv := by
  obtain ⟨hc, hm⟩ := hi
  refine pipe_step_elim h (motive := fun t => t.Inv) ?_ ?_ ?_ ?_ ?_ ?_
  · intro c rest ht hcc hlt
    simp [Pipe.Inv]; omega
  · intro c rest ht hcc
    exact ⟨hc, hm⟩
  · intro w c rest hw hd
    have := sum_map_set (.busy c) Worker.holds hw
    simp [Pipe.Inv, hd, Worker.holds] at this hc ⊢; omega
  · intro w c hw
    have := sum_map_set .sent Worker.holds hw
    simp [Pipe.Inv, Worker.holds] at this hc ⊢; omega
  · intro w hw
    have := sum_map_set .idle Worker.holds hw
    simp [Pipe.Inv, Worker.holds] at this hc ⊢; omega
  · intro t rest hf
    exact ⟨hc, hm⟩

@[simp] theorem Worker.isIdle_idle : Worker.isIdle .idle = true := rfl
@[simp] theorem Worker.isIdle_busy (c : Cluster) : Worker.isIdle (.busy c) = false := rfl
@[simp] theorem Worker.isIdle_sent : Worker.isIdle .sent = false := rfl

theorem workers_idle {l : List Worker} (h : l.all Worker.isIdle = true) :
    l = List.replicate l.length .idle :=
  List.eq_replicate_iff.mpr ⟨rfl, fun w hw => by
    have := List.all_eq_true.mp h w hw
    cases w <;> first | rfl | cases this⟩

/-- The writer moves if the fusion queue is not empty; else a busy worker finishes or one that has sent
    releases; else all are idle and one takes from the dispatch queue; if that is empty too, `Pipe.Inv`
    gives `count = 0 < maxQ`, so the main thread is not blocked (the only use of `Pipe.Inv`). -/
theorem pipe_no_deadlock {codec : Codec} {s : Pipe} (hi : s.Inv) (hw : 0 < s.workers.length)
    (hq : 0 < s.maxQ) (hnf : s.final = false) : ∃ a s', s.step codec a = some s' := by
  cases hfq : s.fusionQ with
  | cons t rest =>
    refine ⟨.write, ?_⟩
    cases t <;> simp [Pipe.step, hfq]
  | nil =>
    cases hidle : s.workers.all Worker.isIdle with
    | false =>
      obtain ⟨x, hx, hni⟩ := List.all_eq_false.mp hidle
      obtain ⟨w, hxw⟩ := List.getElem?_of_mem hx
      cases x with
      | idle => exact absurd rfl hni
      | busy c => exact ⟨.finish w, by simp [Pipe.step, hxw]⟩
      | sent => exact ⟨.release w, by simp [Pipe.step, hxw]⟩
    | true =>
      cases hdq : s.dispatchQ with
      | cons c rest =>
        refine ⟨.take 0, ?_⟩
        have h0 : s.workers[0]? = some .idle := by rw [workers_idle hidle]; simp [hw]
        simp [Pipe.step, hdq, h0]
      | nil =>
        have hcount : s.count = 0 := by
          have := hi.1
          rw [workers_idle hidle, hdq] at this
          simpa [Worker.holds] using this
        cases htd : s.todo with
        | nil => simp [Pipe.final, htd, hdq, hfq, hidle] at hnf
        | cons c rest =>
          refine ⟨.mainSend, ?_⟩
          simp only [Pipe.step, htd]
          split
          · simp [hcount, hq]
          · simp

theorem Pipe.count_all (x : Cluster) (s : Pipe) :
    s.all.count x = s.todo.count x + s.dispatchQ.count x +
      (s.workers.map (fun y => y.clusters.count x)).sum + (s.fusionQ.map WTask.cluster).count x +
      s.done.count x := by
  simp [Pipe.all, List.count_flatten, Function.comp_def, Nat.add_assoc]

theorem pipe_all_perm_step {codec : Codec} {s s' : Pipe} {a : PAct}
    (h : s.step codec a = some s') : s'.all.Perm s.all := by
  rw [List.perm_iff_count]
  intro x
  rw [Pipe.count_all, Pipe.count_all]
  refine pipe_step_elim h (motive := fun t => t.todo.count x + t.dispatchQ.count x +
      (t.workers.map (fun y => y.clusters.count x)).sum + (t.fusionQ.map WTask.cluster).count x +
      t.done.count x = _) ?_ ?_ ?_ ?_ ?_ ?_
  · intro c rest ht hc hlt
    simp only [ht, List.count_append, List.count_cons, List.count_nil]; omega
  · intro c rest ht hc
    simp only [ht, List.count_append, List.count_cons, List.count_nil, List.map_append, List.map_cons,
      List.map_nil, WTask.cluster]; omega
  · intro w c rest hw hd
    have := sum_map_set (.busy c) (fun y => y.clusters.count x) hw
    simp only [hd, List.count_cons, Worker.clusters, List.count_nil] at this ⊢; omega
  · intro w c hw
    have := sum_map_set .sent (fun y => y.clusters.count x) hw
    simp only [List.count_append, List.count_cons, List.count_nil, List.map_append, List.map_cons,
      List.map_nil, WTask.cluster, Worker.clusters] at this ⊢; omega
  · intro w hw
    have := sum_map_set .idle (fun y => y.clusters.count x) hw
    simp only [Worker.clusters, List.count_nil] at this ⊢; omega
  · intro t rest hf
    simp only [hf, List.count_append, List.count_cons, List.count_nil, List.map_cons]; omega

theorem pipe_final_done (s : Pipe) (hf : s.final = true) : s.all = s.done := by
  simp only [Pipe.final, Bool.and_eq_true, List.isEmpty_iff] at hf
  obtain ⟨⟨⟨h1, h2⟩, h3⟩, h4⟩ := hf
  rw [Pipe.all, h1, h2, h3, workers_idle h4]
  simp [Worker.clusters]

theorem pipe_init_all (cs : List Cluster) (n : Nat) : (Pipe.init cs n).all = cs := by
  simp [Pipe.all, Pipe.init, Worker.clusters]

theorem pipe_reach {codec : Codec} {cs : List Cluster} {n : Nat} {as : List PAct} {s : Pipe}
    (h : (Pipe.init cs n).run codec as = some s) :
    s.Inv ∧ s.maxQ = 2 * n ∧ s.workers.length = n ∧ s.all.Perm cs ∧
      as.length + s.measure ≤ 6 * cs.length := by
  apply (Pipe.isRun codec).trace_inv h
  · exact ⟨pipe_inv_init cs n, rfl, List.length_replicate, by rw [pipe_init_all],
      by simp [Pipe.measure, Pipe.init, Worker.weight]⟩
  · rintro pre t a t' ⟨hi, hq, hw, hp, hl⟩ hst
    have hf := pipe_step_frame hst
    have hm := pipe_measure_decreases hst
    refine ⟨pipe_inv_step hi hst, by omega, by omega, (pipe_all_perm_step hst).trans hp, ?_⟩
    rw [List.length_append, List.length_singleton]
    omega

/-- The invariant behind `c08_addresses`.  A task in the fusion queue carries what `Cluster.encode` makes of its
    cluster: a worker's buffer is that by construction, and the writer's own encoding of a raw cluster (as not
    compressed) is, because `ClustersWF` lets no cluster marked compressed be sent raw. -/
def PipeLayoutInv (codec : Codec) (s : Pipe) : Prop :=
  s.base = 128 ∧ s.out = cfBytes codec s.done ∧ s.addresses = cfAddrs codec s.done 128 ∧
  (∀ t ∈ s.fusionQ, t.payload codec = t.cluster.encode codec) ∧ ClustersWF codec s.todo

theorem pipe_layout_init (codec : Codec) (cs : List Cluster) (n : Nat)
    (hwf : ClustersWF codec cs) : PipeLayoutInv codec (Pipe.init cs n) :=
  ⟨rfl, rfl, rfl, nofun, hwf⟩

theorem pipe_layout_step {codec : Codec} {s s' : Pipe} {a : PAct} (hi : PipeLayoutInv codec s)
    (h : s.step codec a = some s') : PipeLayoutInv codec s' := by
  obtain ⟨hb, ho, ha, hfq, htd⟩ := hi
  refine pipe_step_elim h (motive := fun t => PipeLayoutInv codec t) ?_ ?_ ?_ ?_ ?_ ?_
  · intro c rest ht hc hlt
    rw [ht] at htd
    exact ⟨hb, ho, ha, hfq, (List.forall_mem_cons.mp htd).2⟩
  · intro c rest ht hc
    rw [ht] at htd
    obtain ⟨hcw, htd⟩ := List.forall_mem_cons.mp htd
    refine ⟨hb, ho, ha, forall_mem_concat hfq ?_, htd⟩
    -- a cluster marked compressed is sent raw only by a pack without compression, and `ClustersWF` has none
    cases hcc : c.compressed with
    | true => exact absurd (by simpa [hcc] using hc) (hcw hcc)
    | false =>
      cases c
      cases hcc
      rfl
  · intro w c rest hw hd
    exact ⟨hb, ho, ha, hfq, htd⟩
  · intro w c hw
    exact ⟨hb, ho, ha, forall_mem_concat hfq rfl, htd⟩
  · intro w hw
    exact ⟨hb, ho, ha, hfq, htd⟩
  · intro t rest hf
    rw [hf] at hfq
    obtain ⟨hc, hfq⟩ := List.forall_mem_cons.mp hfq
    refine ⟨hb, ?_, ?_, hfq, htd⟩
    · rw [cfBytes_append, ← ho, hc, cfBytes_cons, cfBytes_nil, List.append_nil]
    · rw [cfAddrs_append, ← ha, ← ho, hb, hc]
      rfl

end Jubako
