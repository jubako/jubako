/-
The statements of `EntryStore::sort` (`creator/directory_pack/entry_store.rs`), extracted from the source on
every run (Generated/FuncsRefs.lean), are the step sequence of the deferred-value model (Model/Refs.lean); the two
loops of `DirectoryPackCreator::finalize` are the schedule `finalizeRepaired` of Model/MultiStore.lean.
-/
import JubakoModel.Model.Refs
import JubakoModel.Model.MultiStore
import JubakoModel.Generated.FuncsRefs

namespace Jubako

/-- the statements of `EntryStore::sort`: a renumbering first and one after every sort (the first sort under
    `if let Some(keys)`, the second in the `while !sorted` loop) -/
theorem gen_entryStoreSortShape (p q : List Nat) :
    (finalizeSteps [p, q]).map FinStep.kind = Generated.entryStoreSortShape := rfl

theorem sortShape_renumbers_after_every_sort :
    Generated.entryStoreSortShape.head? = some .setIdx ∧
    (∀ i, Generated.entryStoreSortShape[i]? = some SortStmt.sort → Generated.entryStoreSortShape[i + 1]? = some SortStmt.setIdx) := by
  refine ⟨rfl, ?_⟩
  intro i h
  have : i < 5 := (List.getElem?_eq_some_iff.mp h).1
  have hi : i = 0 ∨ i = 1 ∨ i = 2 ∨ i = 3 ∨ i = 4 := by omega
  rcases hi with rfl | rfl | rfl | rfl | rfl <;> simp_all [Generated.entryStoreSortShape]

/-- the two loops of `DirectoryPackCreator::finalize` over the entry stores — every store sorted, then every store
    sized, eagerly (`collect`) — are the schedule `c15_multi_store` is proved over -/
theorem gen_directoryFinalizePhases (k : Nat) :
    (Generated.directoryFinalizePhases.map (MPhase.acts k)).flatten ++ (List.range k).map MAct.write = finalizeRepaired k := by
  simp [Generated.directoryFinalizePhases, MPhase.acts, finalizeRepaired]

end Jubako
