/-
The statement sequences of the back-pressure protocol extracted from the source on every run
(Generated/FuncsPipe.lean) are the ones the actions of the pipeline model stand for.
-/
import JubakoModel.Model.Pipeline
import JubakoModel.Generated.FuncsPipe

namespace Jubako

theorem gen_pipelineShapes :
    Generated.pipelineDispatchShape = mainSendCompressedStmts ∧
    Generated.pipelineRawShape = mainSendRawStmts ∧
    Generated.pipelineWorkerShape = workerTurnStmts :=
  ⟨rfl, rfl, rfl⟩

end Jubako
