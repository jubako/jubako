/-
C04 for the packs: the files `contentPackWrite`, `dirPackWrite`, `manifestWrite` produce are
`framePack`s whose header describes the layout (`PackHeader.Frames`; shown beside each written file,
for the manifest here), so `packCheck_framePack_self` applies; the open functions succeed on them by
the file-level round-trip lemmas.  Both facts are put together once, for a writer given by its inputs
(`CreatedPack.verifiesAs`).

`manifestWrite` lays a manifest out as `ManifestPackCreator::finalize` does and `manifestCreate`
computes its inputs as the creator does; they model writers in statements only: the driver does not
run them (it runs `contentPackWrite` and `dirPackWrite`).

`cf…`: of the written content file (Lemmas/ContentFile.lean); `mw…`: of the file `manifestWrite` writes.
-/
import JubakoModel.Model.ManifestWriter
import JubakoModel.Lemmas.Frame
import JubakoModel.Lemmas.ContentFile
import JubakoModel.Lemmas.DirFile
import JubakoModel.Lemmas.SetLocation

namespace Jubako

/-- a written directory pack verifies, under the hypotheses of the file-level round trip `dirfile_roundtrip` -/
theorem directory_created_verifies (H : Bytes → Bytes) (vendor uuid freeData : Bytes) (d : DirIn)
    (hl : d.Limits H vendor uuid freeData) (hH : ∀ x, (H x).length = 32) :
    packCheck H id (dirPackWrite H vendor uuid freeData d) = .ok true := by
  rw [dirPackWrite_frame]
  exact packCheck_framePack_self (d.header_frames vendor uuid freeData hl.vendorLen hl.uuidLen hl.freeDataLen
    (d.checkPos_lt H vendor uuid freeData hl.vendorLen hl.uuidLen hl.freeDataLen hH hl.fileSize)) hH

def mwMid (checkBlocks : Bytes) (store : VStore) : Bytes := checkBlocks ++ store.encode.1

def mwBase (checkBlocks : Bytes) (store : VStore) : Nat := 128 + (mwMid checkBlocks store).length

def mwCheckPos (checkBlocks : Bytes) (store : VStore) (infos : List PackInfo) : Nat :=
  mwBase checkBlocks store + infos.length * 256

def mwMH (freeData checkBlocks : Bytes) (store : VStore) (infos : List PackInfo) : ManifestHeader :=
  ⟨infos.length, (128 + checkBlocks.length + store.encode.2.1, store.encode.2.2), freeData⟩

def mwHeader (vendor uuid checkBlocks : Bytes) (store : VStore) (infos : List PackInfo) :
    PackHeader :=
  ⟨PackKind.manifest, vendor, Consts.versionMajor, Consts.versionMinor, uuid, 0,
    mwCheckPos checkBlocks store infos + 37 + 64, mwCheckPos checkBlocks store infos⟩

theorem manifestWrite_frame (H : Bytes → Bytes) (vendor uuid freeData checkBlocks : Bytes)
    (store : VStore) (infos : List PackInfo) :
    manifestWrite H vendor uuid freeData checkBlocks store infos =
      framePack H (manifestMask (mwBase checkBlocks store) infos.length)
        (mwHeader vendor uuid checkBlocks store infos)
        (block (mwMH freeData checkBlocks store infos).encode ++ mwMid checkBlocks store ++
          infos.flatMap (fun p => block p.encode)) := rfl

def mwTrailer (H : Bytes → Bytes) (vendor uuid freeData checkBlocks : Bytes) (store : VStore)
    (infos : List PackInfo) : Bytes :=
  block (CheckInfo.blake3 (H (manifestMask (mwBase checkBlocks store) infos.length
    (block (mwHeader vendor uuid checkBlocks store infos).encode ++
      (block (mwMH freeData checkBlocks store infos).encode ++ mwMid checkBlocks store ++
        infos.flatMap (fun p => block p.encode)))))).encode ++
  (block (mwHeader vendor uuid checkBlocks store infos).encode).reverse

theorem manifestWrite_eq (H : Bytes → Bytes) (vendor uuid freeData checkBlocks : Bytes)
    (store : VStore) (infos : List PackInfo) :
    manifestWrite H vendor uuid freeData checkBlocks store infos =
      block (mwHeader vendor uuid checkBlocks store infos).encode ++
        block (mwMH freeData checkBlocks store infos).encode ++ mwMid checkBlocks store ++
        (infos.flatMap fun p => block p.encode) ++
        mwTrailer H vendor uuid freeData checkBlocks store infos := by
  rw [manifestWrite_frame]
  simp only [framePack, packTail, mwTrailer, List.append_assoc]

/-- the hypotheses under which a manifest is written without any field overflowing:
    * `vendorLen`, `uuidLen`, `freeDataLen` — fixed-size arrays in the code;
    * `infosWF` — field widths of a pack info (uuid 16 bytes, `u64` size, 48+16-bit `SizedOffset`,
      `u16` id, `u8` group, `u16` free-data id, location ≤ 213 bytes);
    * `count` — the pack count is a `u16`;
    * `storeTail` — the `SizedOffset` of the value store keeps 16 bits for the size of the tail;
    * `fileSize` — that `SizedOffset` keeps 48 bits for the offset. -/
structure ManifestLimits (vendor uuid freeData checkBlocks : Bytes) (store : VStore)
    (infos : List PackInfo) : Prop where
  vendorLen : vendor.length = 4
  uuidLen : uuid.length = 16
  freeDataLen : freeData.length = 24
  infosWF : ∀ p ∈ infos, p.WF
  count : infos.length < 2 ^ 16
  storeTail : store.tailBytes.length < 2 ^ 16
  fileSize : mwCheckPos checkBlocks store infos + 37 + 64 < 2 ^ 48

section Written

variable {H : Bytes → Bytes} {vendor uuid freeData checkBlocks : Bytes} {store : VStore}
  {infos : List PackInfo}

theorem mwHeader_WF (L : ManifestLimits vendor uuid freeData checkBlocks store infos) :
    (mwHeader vendor uuid checkBlocks store infos).WF :=
  PackHeader.WF_written _ _ _ _ _ L.vendorLen L.uuidLen (by have := L.fileSize; omega)
    (by have := L.fileSize; omega)

theorem mwValueStore_le_checkPos (checkBlocks : Bytes) (store : VStore) (infos : List PackInfo) :
    128 + checkBlocks.length + store.encode.2.1 ≤ mwCheckPos checkBlocks store infos := by
  have := VStore.encode_fst_length store
  simp only [mwCheckPos, mwBase, mwMid, List.length_append]
  omega

theorem manifestWrite_layout (L : ManifestLimits vendor uuid freeData checkBlocks store infos) :
    ManifestLayout (manifestWrite H vendor uuid freeData checkBlocks store infos)
      (mwHeader vendor uuid checkBlocks store infos) (mwMH freeData checkBlocks store infos)
      (mwBase checkBlocks store) infos := by
  rw [manifestWrite_eq]
  have hle := mwValueStore_le_checkPos checkBlocks store infos
  have hfs := L.fileSize
  exact ManifestLayout.of_concat_mid _ _ _ _ _ (mwHeader_WF L) ⟨rfl, rfl⟩
    (by show 128 + checkBlocks.length + store.encode.2.1 < 2 ^ 48; omega)
    (by show store.encode.2.2 < 2 ^ 16; rw [VStore.encode_eq]; exact L.storeTail)
    L.freeDataLen rfl L.count rfl L.infosWF

theorem mwHeader_frames (L : ManifestLimits vendor uuid freeData checkBlocks store infos) :
    (mwHeader vendor uuid checkBlocks store infos).Frames
      (block (mwMH freeData checkBlocks store infos).encode ++ mwMid checkBlocks store ++
        infos.flatMap (fun p => block p.encode)) := by
  refine ⟨mwHeader_WF L, ⟨rfl, rfl⟩, ?_, rfl⟩
  show mwCheckPos checkBlocks store infos = _
  simp only [List.length_append, block_length,
    ManifestHeader.encode_length (mwMH freeData checkBlocks store infos) L.freeDataLen,
    infoBlocks_length infos L.infosWF, mwCheckPos, mwBase]
  omega

theorem manifestWrite_length (L : ManifestLimits vendor uuid freeData checkBlocks store infos)
    (hH : ∀ x, (H x).length = 32) :
    (manifestWrite H vendor uuid freeData checkBlocks store infos).length =
      mwCheckPos checkBlocks store infos + 37 + 64 :=
  framePack_length (mwHeader_frames L) hH

theorem valueStoreOpen_manifestWrite (L : ManifestLimits vendor uuid freeData checkBlocks store infos) :
    valueStoreOpen (manifestWrite H vendor uuid freeData checkBlocks store infos)
      (mwMH freeData checkBlocks store infos).valueStore = .ok (store.tail, store.data) := by
  have hle := mwValueStore_le_checkPos checkBlocks store infos
  have hfs := L.fileSize
  simp only [VStore.encode_eq] at hle
  have c0 := manifestWrite_eq H vendor uuid freeData checkBlocks store infos
  generalize manifestWrite H vendor uuid freeData checkBlocks store infos = f at c0 ⊢
  simp only [mwMid, List.append_assoc] at c0
  have c1 : f.drop 64 = _ :=
    drop_skip_len (p := 0) c0 (by rw [block_length, PackHeader.encode_length _ (mwHeader_WF L)])
  have c2 : f.drop (128 + checkBlocks.length) = _ :=
    drop_skip (drop_skip_len (k := 64) c1 (by rw [block_length, ManifestHeader.encode_length _ L.freeDataLen]))
  obtain ⟨hd, ht⟩ := store.encode_blocks c2
  simp only [mwMH, VStore.encode_eq, ← Nat.add_assoc]
  exact valueStoreOpen_of_blocks store _ hd ht
    (fun hi => by
      have := VStore.values_length_le_tail store hi
      have := L.storeTail
      omega)
    (by omega)

theorem manifestOpen_manifestWrite (L : ManifestLimits vendor uuid freeData checkBlocks store infos)
    (hdir : infos.any (fun i => i.kind = .directory) = true) :
    manifestOpen (manifestWrite H vendor uuid freeData checkBlocks store infos) =
      .ok (mwHeader vendor uuid checkBlocks store infos, mwMH freeData checkBlocks store infos,
        infos) :=
  (manifestWrite_layout L).manifestOpen_eq rfl (Or.inr ⟨_, valueStoreOpen_manifestWrite L⟩) hdir

theorem manifestWrite_verifies (L : ManifestLimits vendor uuid freeData checkBlocks store infos)
    (hH : ∀ x, (H x).length = 32) :
    manifestCheck H (manifestWrite H vendor uuid freeData checkBlocks store infos) = .ok true := by
  unfold manifestCheck
  rw [(manifestWrite_layout L).manifestMaskOf_eq, Outcome.ok_bind, manifestWrite_frame]
  exact packCheck_framePack_self (mwHeader_frames L) hH

/-- `fileStep` is what the tool `setLocationAt` computes (`setLocationAt_eq_fileStep`) -/
theorem manifestWrite_verifies_after_relocations
    (L : ManifestLimits vendor uuid freeData checkBlocks store infos)
    (hH : ∀ x, (H x).length = 32) (ops : List (Bytes × Bytes))
    (hl : ∀ op ∈ ops, op.2.length ≤ Consts.locationPad) :
    manifestCheck H (ops.foldl (fun (st : Bytes × List PackInfo) op =>
      (fileStep (mwBase checkBlocks store) st.2 st.1 op, specStep st.2 op))
      (manifestWrite H vendor uuid freeData checkBlocks store infos, infos)).1 = .ok true := by
  rw [manifestCheck_histories H _ _ _ _ _ (manifestWrite_layout L) ops hl]
  exact manifestWrite_verifies L hH

/-- one run of the tool on a created manifest is the abstract step, and the result verifies -/
theorem manifest_created_set_location (L : ManifestLimits vendor uuid freeData checkBlocks store infos)
    (hH : ∀ x, (H x).length = 32) (u loc : Bytes) (hl : loc.length ≤ Consts.locationPad) :
    ∃ f', setLocationAt (manifestWrite H vendor uuid freeData checkBlocks store infos) 0 u loc =
        .ok (f', oldLocation infos u) ∧
      manifestCheck H f' = .ok true ∧
      ManifestLayout f' (mwHeader vendor uuid checkBlocks store infos)
        (mwMH freeData checkBlocks store infos) (mwBase checkBlocks store)
        (specStep infos (u, loc)) := by
  have S := manifestWrite_layout (H := H) L
  refine ⟨_, setLocationAt_eq_fileStep _ u loc _ _ _ _ S hl, ?_, (S.step (u, loc) hl).1⟩
  rw [manifestCheck_fileStep H _ _ _ _ _ S u loc hl]
  exact manifestWrite_verifies L hH

end Written

/-- as `ContainerPack::check` dispatches -/
def kindOpenCheck (H : Bytes → Bytes) (k : PackKind) (g : Bytes) : Outcome Bool :=
  match k with
  | .manifest => manifestOpenCheck H g
  | .directory => directoryOpenCheck H g
  | .content => contentOpenCheck H g
  | .container => .panic "container_pack.rs: todo!() (nested container)"

/-- Implies the per-pack verdict of `ContainerPack::check` (`packsCheck_all`); the size clause is what
    lets the pack be found alone in a file (`blindOpen_single`, `locatedCheck_single`). -/
def PackVerifies (H : Bytes → Bytes) (b : Bytes) : Prop :=
  ∃ h, packHeaderOf b = .ok h ∧ h.packSize = b.length ∧ kindOpenCheck H h.kind b = .ok true

/-- `PackVerifies` indexed by the kind the header names: users learn the kind (which pack is the manifest,
    which check applies) without going back to the header -/
def PackVerifiesAs (H : Bytes → Bytes) (k : PackKind) (b : Bytes) : Prop :=
  ∃ h, packHeaderOf b = .ok h ∧ h.kind = k ∧ h.packSize = b.length ∧ kindOpenCheck H k b = .ok true

theorem kindOpenCheck_true_inv (H : Bytes → Bytes) (k : PackKind) (b : Bytes)
    (h : kindOpenCheck H k b = .ok true) :
    k ≠ .container ∧ (k = .manifest → manifestCheck H b = .ok true) ∧
      (k ≠ .manifest → packCheck H id b = .ok true) := by
  cases k with
  | container => cases h
  | manifest => exact ⟨nofun, fun _ => (Outcome.bind_eq_ok.1 h).elim fun _ h => h.2, fun h => absurd rfl h⟩
  | directory => exact ⟨nofun, nofun, fun _ => (Outcome.bind_eq_ok.1 h).elim fun _ h => h.2⟩
  | content => exact ⟨nofun, nofun, fun _ => (Outcome.bind_eq_ok.1 h).elim fun _ h => h.2⟩

theorem packVerifies_iff {H : Bytes → Bytes} {b : Bytes} : PackVerifies H b ↔ ∃ k, PackVerifiesAs H k b :=
  ⟨fun ⟨h, h1, h2, h3⟩ => ⟨_, h, h1, rfl, h2, h3⟩, fun ⟨_, h, h1, hk, h2, h3⟩ => ⟨h, h1, h2, hk ▸ h3⟩⟩

namespace PackVerifiesAs

variable {H mask : Bytes → Bytes} {k : PackKind} {b body : Bytes} {h : PackHeader}

theorem openCheck (v : PackVerifiesAs H k b) : kindOpenCheck H k b = .ok true :=
  let ⟨_, _, _, _, h3⟩ := v
  h3

theorem check (v : PackVerifiesAs H k b) (hk : k ≠ .manifest) : packCheck H id b = .ok true :=
  (kindOpenCheck_true_inv H k b v.openCheck).2.2 hk

theorem manifest_check (v : PackVerifiesAs H .manifest b) : manifestCheck H b = .ok true :=
  (kindOpenCheck_true_inv H _ b v.openCheck).2.1 rfl

theorem of_frame (F : h.Frames body) (hH : ∀ x, (H x).length = 32)
    (hk : kindOpenCheck H h.kind (framePack H mask h body) = .ok true) :
    PackVerifiesAs H h.kind (framePack H mask h body) :=
  ⟨h, packHeaderOf_frame F, rfl, (framePack_length F hH).symm, hk⟩

end PackVerifiesAs

/-- a pack as one of the three writers produces it, by its inputs -/
inductive CreatedPack where
  | manifest (vendor uuid freeData checkBlocks : Bytes) (store : VStore) (infos : List PackInfo)
  | directory (vendor uuid freeData : Bytes) (d : DirIn)
  | content (codec : Codec) (m : ContentPackMeta) (arrival : List Cluster)
      (infos : List (Nat × Nat))

namespace CreatedPack

def uuid : CreatedPack → Bytes
  | .manifest _ u _ _ _ _ => u
  | .directory _ u _ _ => u
  | .content _ m _ _ => m.uuid

def kind : CreatedPack → PackKind
  | .manifest .. => .manifest
  | .directory .. => .directory
  | .content .. => .content

def bytes (H : Bytes → Bytes) : CreatedPack → Bytes
  | .manifest v u fd cb s infos => manifestWrite H v u fd cb s infos
  | .directory v u fd d => dirPackWrite H v u fd d
  | .content codec m arrival infos => contentPackWrite H codec m arrival infos

/-- where the bounds come from: `ManifestLimits`, `directoryOpen_dirPackWrite`,
    `contentOpen_contentPackWrite`.  The size bound is `2 ^ 48` where the file holds `SizedOffset`s (48 bits of
    offset: the manifest's header and pack infos, the directory pack's tails) and `2 ^ 64` for a content pack,
    whose header holds plain `u64` offsets; it is on the file length or on the check position `+ 37 + 64`,
    which is the file length (`framePack_length`), as the round trip it comes from has it. -/
def Limits (H : Bytes → Bytes) : CreatedPack → Prop
  | .manifest v u fd cb s infos =>
    ManifestLimits v u fd cb s infos ∧ infos.any (fun i => i.kind = .directory) = true
  | .directory v u fd d =>
    v.length = 4 ∧ u.length = 16 ∧ fd.length = 24 ∧ d.stores.length < 256 ∧
    d.indexes.length < 2 ^ 32 ∧ (dirPackWrite H v u fd d).length < 2 ^ 48
  | .content codec m arrival infos =>
    m.WF ∧ infos.length < 2 ^ 32 ∧ arrival.length < 2 ^ 32 ∧
    cfCheckPos codec arrival infos + 37 + 64 < 2 ^ 64

theorem verifiesAs (H : Bytes → Bytes) (p : CreatedPack) (hl : p.Limits H)
    (hH : ∀ x, (H x).length = 32) : PackVerifiesAs H p.kind (p.bytes H) := by
  cases p with
  | manifest v u fd cb s infos =>
    refine .of_frame (mwHeader_frames hl.1) hH ?_
    show manifestOpenCheck H (manifestWrite H v u fd cb s infos) = _
    rw [manifestOpenCheck, manifestOpen_manifestWrite hl.1 hl.2, Outcome.ok_bind]
    exact manifestWrite_verifies hl.1 hH
  | directory v u fd d =>
    obtain ⟨h1, h2, h3, h4, h5, h6⟩ := hl
    have F := d.header_frames v u fd h1 h2 h3 (d.checkPos_lt H v u fd h1 h2 h3 hH h6)
    have ho := (directoryOpen_dirPackWrite H v u fd d h1 h2 h3 h4 h5 h6).1
    show PackVerifiesAs H _ (dirPackWrite H v u fd d)
    rw [dirPackWrite_frame] at ho ⊢
    refine .of_frame F hH ?_
    show directoryOpenCheck H _ = _
    rw [directoryOpenCheck, ho, Outcome.ok_bind]
    exact packCheck_framePack_self F hH
  | content codec m arrival infos =>
    obtain ⟨h1, h2, h3, h4⟩ := hl
    have F := cfHeader_frames codec m arrival infos h1 h4
    have ho := (contentOpen_contentPackWrite H codec m arrival infos h1 h2 h3 h4).1
    show PackVerifiesAs H _ (contentPackWrite H codec m arrival infos)
    rw [contentPackWrite_frame] at ho ⊢
    refine .of_frame F hH ?_
    show contentOpenCheck H _ = _
    rw [contentOpenCheck, ho, Outcome.ok_bind]
    exact packCheck_framePack_self F hH

/-- **every pack a writer produces verifies** -/
theorem verifies (H : Bytes → Bytes) (p : CreatedPack) (hl : p.Limits H)
    (hH : ∀ x, (H x).length = 32) : PackVerifies H (p.bytes H) :=
  packVerifies_iff.2 ⟨_, p.verifiesAs H hl hH⟩

theorem uuid_length (H : Bytes → Bytes) (p : CreatedPack) (hl : p.Limits H) :
    p.uuid.length = 16 := by
  cases p with
  | manifest v u fd cb s infos => exact hl.1.uuidLen
  | directory v u fd d => exact hl.2.1
  | content codec m arrival infos => exact hl.1.2.1

end CreatedPack

/-- **created content packs verify** (as `ContainerPack::check` sees them) -/
theorem PackVerifies.content (H : Bytes → Bytes) (codec : Codec) (m : ContentPackMeta)
    (arrival : List Cluster) (infos : List (Nat × Nat)) (hm : m.WF)
    (hc1 : infos.length < 2 ^ 32) (hc2 : arrival.length < 2 ^ 32)
    (hs : cfCheckPos codec arrival infos + 37 + 64 < 2 ^ 64)
    (hH : ∀ x, (H x).length = 32) :
    PackVerifies H (contentPackWrite H codec m arrival infos) :=
  CreatedPack.verifies H (.content codec m arrival infos) ⟨hm, hc1, hc2, hs⟩ hH

/-- **created directory packs verify** -/
theorem PackVerifies.directory (H : Bytes → Bytes) (vendor uuid freeData : Bytes) (d : DirIn)
    (hv : vendor.length = 4) (hu : uuid.length = 16) (hfd : freeData.length = 24)
    (hns : d.stores.length < 256) (hni : d.indexes.length < 2 ^ 32)
    (hsize : (dirPackWrite H vendor uuid freeData d).length < 2 ^ 48)
    (hH : ∀ x, (H x).length = 32) :
    PackVerifies H (dirPackWrite H vendor uuid freeData d) :=
  CreatedPack.verifies H (.directory vendor uuid freeData d) ⟨hv, hu, hfd, hns, hni, hsize⟩ hH

/-- **created manifest packs verify** -/
theorem PackVerifies.manifest {H : Bytes → Bytes} {vendor uuid freeData checkBlocks : Bytes}
    {store : VStore} {infos : List PackInfo}
    (L : ManifestLimits vendor uuid freeData checkBlocks store infos)
    (hdir : infos.any (fun i => i.kind = .directory) = true) (hH : ∀ x, (H x).length = 32) :
    PackVerifies H (manifestWrite H vendor uuid freeData checkBlocks store infos) :=
  CreatedPack.verifies H (.manifest vendor uuid freeData checkBlocks store infos) ⟨L, hdir⟩ hH

theorem checkInfoSOs_length (packs : List (PackData × Bytes)) (pos : Nat) :
    (checkInfoSOs packs pos).length = packs.length := by
  induction packs generalizing pos with
  | nil => rfl
  | cons p ps ih => simp [checkInfoSOs, ih]

theorem checkBlocksOf_cons (p : PackData × Bytes) (ps : List (PackData × Bytes)) :
    checkBlocksOf (p :: ps) = block p.1.checkInfo.encode ++ checkBlocksOf ps := by
  simp [checkBlocksOf]

theorem zip_checkInfoSOs_spec (packs : List (PackData × Bytes)) (pos : Nat) :
    ∀ x ∈ packs.zip (checkInfoSOs packs pos), x.1 ∈ packs ∧
      x.2.2 = (block x.1.1.checkInfo.encode).length ∧
      x.2.1 + x.2.2 ≤ pos + (checkBlocksOf packs).length := by
  induction packs generalizing pos with
  | nil => nofun
  | cons p ps ih =>
    intro x hx
    rw [checkInfoSOs, List.zip_cons_cons, List.mem_cons] at hx
    rw [checkBlocksOf_cons, List.length_append]
    rcases hx with rfl | hx
    · exact ⟨List.mem_cons_self, rfl, by simp only; omega⟩
    · obtain ⟨h1, h2, h3⟩ := ih _ x hx
      exact ⟨List.mem_cons_of_mem _ h1, h2, by omega⟩

theorem manifestInfos_length (packs : List (PackData × Bytes)) :
    (manifestInfos packs).length = packs.length := by
  simp [manifestInfos, checkInfoSOs_length]

theorem manifestInfos_kinds (packs : List (PackData × Bytes)) :
    (manifestInfos packs).map (·.kind) = packs.map (·.1.kind) := by
  unfold manifestInfos
  rw [List.map_map]
  have : (packs.zip (checkInfoSOs packs 128)).map Prod.fst = packs :=
    List.map_fst_zip (by rw [checkInfoSOs_length]; exact Nat.le_refl _)
  conv => rhs; rw [← this, List.map_map]
  rfl

/-- the hypotheses under which `ManifestPackCreator::finalize` writes every field without
    overflow, in terms of the creator's inputs:
    * `packsWF` — per pack: uuid 16 bytes, `u64` size, `u16` id, locator ≤ 213 bytes, a blake3
      check info holds 32 bytes;
    * the others as in `ManifestLimits`. -/
structure ManifestCreateLimits (vendor uuid freeData : Bytes) (packs : List (PackData × Bytes)) :
    Prop where
  vendorLen : vendor.length = 4
  uuidLen : uuid.length = 16
  freeDataLen : freeData.length = 24
  packsWF : ∀ p ∈ packs, p.1.uuid.length = 16 ∧ p.1.packSize < 2 ^ 64 ∧ p.1.packId < 2 ^ 16 ∧
    p.2.length ≤ Consts.locationPad ∧ ∀ x, p.1.checkInfo = .blake3 x → x.length = 32
  count : packs.length < 2 ^ 16
  storeTail : (manifestStore packs).tailBytes.length < 2 ^ 16
  fileSize : mwCheckPos (checkBlocksOf packs) (manifestStore packs) (manifestInfos packs) + 37 + 64
    < 2 ^ 48

theorem ManifestCreateLimits.toLimits {vendor uuid freeData : Bytes}
    {packs : List (PackData × Bytes)} (L : ManifestCreateLimits vendor uuid freeData packs) :
    ManifestLimits vendor uuid freeData (checkBlocksOf packs) (manifestStore packs)
      (manifestInfos packs) := by
  refine ⟨L.vendorLen, L.uuidLen, L.freeDataLen, ?_, by rw [manifestInfos_length]; exact L.count,
    L.storeTail, L.fileSize⟩
  intro info hinfo
  obtain ⟨⟨p, so⟩, hz, rfl⟩ := List.mem_map.mp hinfo
  -- the check-info region lies inside the check-info blocks, which end before the check position: < 2^48
  obtain ⟨hp, s2, s3⟩ : p ∈ packs ∧ so.2 = _ ∧ so.1 + so.2 ≤ _ := zip_checkInfoSOs_spec packs 128 _ hz
  obtain ⟨h1, h2, h3, h4, h5⟩ := L.packsWF p hp
  have hfs := L.fileSize
  have hcb : 128 + (checkBlocksOf packs).length ≤
      mwCheckPos (checkBlocksOf packs) (manifestStore packs) (manifestInfos packs) := by
    simp only [mwCheckPos, mwBase, mwMid, List.length_append]; omega
  -- a check-info block is 5 bytes (no hash) or 37 (kind byte, 32-byte hash, CRC)
  have hsz : so.2 ≤ 37 := by
    rw [s2, block_length]
    cases hci : p.1.checkInfo with
    | none => simp [CheckInfo.encode]
    | blake3 x => simp [CheckInfo.encode, h5 x hci]
  -- the free-data id indexes the values of the store, which are no more than its tail is long
  have hid : (manifestStore packs).idOf p.1.freeData < 2 ^ 16 := by
    have hix : (manifestStore packs).indexed = true := VStore.finalize_indexed true _
    have hmem : p.1.freeData ∈ (manifestStore packs).values := by
      rw [manifestStore, VStore.mem_finalize]
      exact List.mem_map.mpr ⟨p, hp, rfl⟩
    have hr := List.idxOf_lt_length_of_mem hmem
    have hle := VStore.values_length_le_tail (manifestStore packs) hix
    have := L.storeTail
    rw [VStore.idOf_eq, hix, if_pos rfl]
    omega
  exact ⟨h1, h2, by show so.1 < 2 ^ 48; omega, by show so.2 < 2 ^ 16; omega, h3,
    by show 0 < 256; decide, hid, h4⟩

theorem manifestInfos_any_directory (packs : List (PackData × Bytes))
    (h : packs.any (fun p => p.1.kind = .directory) = true) :
    (manifestInfos packs).any (fun i => i.kind = .directory) = true := by
  have := List.any_map (f := (·.kind)) (p := fun k => decide (k = PackKind.directory)) (l := manifestInfos packs)
  rw [manifestInfos_kinds, List.any_map] at this
  exact this.symm.trans h

section Created

variable {H : Bytes → Bytes} {vendor uuid freeData : Bytes} {packs : List (PackData × Bytes)}

/-- **`ManifestPackCreator::finalize` round trip**: `ManifestPack::new` on the created manifest
    returns one pack info per `add_pack`, in order, carrying the pack data and the locator. -/
theorem manifestOpen_manifestCreate (L : ManifestCreateLimits vendor uuid freeData packs)
    (hdir : packs.any (fun p => p.1.kind = .directory) = true) :
    manifestOpen (manifestCreate H vendor uuid freeData packs) =
      .ok (mwHeader vendor uuid (checkBlocksOf packs) (manifestStore packs) (manifestInfos packs),
        mwMH freeData (checkBlocksOf packs) (manifestStore packs) (manifestInfos packs),
        manifestInfos packs) :=
  manifestOpen_manifestWrite L.toLimits (manifestInfos_any_directory packs hdir)

/-- **Manifests created by `ManifestPackCreator::finalize` verify.** -/
theorem manifestCreate_verifies (L : ManifestCreateLimits vendor uuid freeData packs)
    (hH : ∀ x, (H x).length = 32) :
    manifestCheck H (manifestCreate H vendor uuid freeData packs) = .ok true :=
  manifestWrite_verifies L.toLimits hH

theorem manifestCreate_openCheck (L : ManifestCreateLimits vendor uuid freeData packs)
    (hdir : packs.any (fun p => p.1.kind = .directory) = true) (hH : ∀ x, (H x).length = 32) :
    manifestOpenCheck H (manifestCreate H vendor uuid freeData packs) = .ok true :=
  (CreatedPack.verifiesAs H (.manifest vendor uuid freeData _ _ _)
    ⟨L.toLimits, manifestInfos_any_directory packs hdir⟩ hH).openCheck

theorem manifestCreate_layout (L : ManifestCreateLimits vendor uuid freeData packs) :
    ManifestLayout (manifestCreate H vendor uuid freeData packs)
      (mwHeader vendor uuid (checkBlocksOf packs) (manifestStore packs) (manifestInfos packs))
      (mwMH freeData (checkBlocksOf packs) (manifestStore packs) (manifestInfos packs))
      (mwBase (checkBlocksOf packs) (manifestStore packs)) (manifestInfos packs) :=
  manifestWrite_layout L.toLimits

/-- … and keep verifying after any history of `set_location` rewrites -/
theorem manifestCreate_verifies_after_relocations
    (L : ManifestCreateLimits vendor uuid freeData packs) (hH : ∀ x, (H x).length = 32)
    (ops : List (Bytes × Bytes)) (hl : ∀ op ∈ ops, op.2.length ≤ Consts.locationPad) :
    manifestCheck H (ops.foldl (fun (st : Bytes × List PackInfo) op =>
      (fileStep (mwBase (checkBlocksOf packs) (manifestStore packs)) st.2 st.1 op, specStep st.2 op))
      (manifestCreate H vendor uuid freeData packs, manifestInfos packs)).1 = .ok true :=
  manifestWrite_verifies_after_relocations L.toLimits hH ops hl

end Created

end Jubako
