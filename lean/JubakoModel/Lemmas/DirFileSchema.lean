/-
Directory pack, file-level round trip, schema level: from the well-formedness of the writer's input
(`DirIn.WF`, decidable) to what the layout codec and the entry codec need of the finalised schema
— headers writable, values representable, variants padded to a common size — then the two codecs
on the writer's input.
-/
import JubakoModel.Lemmas.DirFileEntry

namespace Jubako

/-- value ranges the format can carry: integers are 64 bits, array lengths are at most 3 bytes
    (`lenSize` is 2 bits of the property header), pack ids are 16 bits and content ids 32 bits -/
def Val.inRange : Val → Prop
  | .u n => n < 2 ^ 64
  | .s i => -(2 ^ 63 : Int) ≤ i ∧ i < 2 ^ 63
  | .arr b => b.length < 2 ^ 24
  | .content p c => p < 2 ^ 16 ∧ c < 2 ^ 32

instance (v : Val) : Decidable v.inRange := by
  cases v <;> simp only [Val.inRange] <;> infer_instance

def Val.hasType : PDef → Val → Prop
  | .uint, .u _ => True
  | .sint, .s _ => True
  | .array _ _, .arr _ => True
  | .content, .content _ _ => True
  | _, _ => False

instance (t : PDef) (v : Val) : Decidable (Val.hasType t v) := by
  cases t <;> cases v <;> simp only [Val.hasType] <;> infer_instance

/-- property definition: the name is a p-string (one length byte); the inline prefix of an array
    is 5 bits of the property header, its store index one byte and must name an existing store -/
def PropDef.WF (nstores : Nat) (p : PropDef) : Prop :=
  p.name.length ≤ 255 ∧
  match p.ty with
  | .array fixed st => fixed ≤ 31 ∧ st < nstores
  | _ => True

instance (n : Nat) (p : PropDef) : Decidable (p.WF n) := by
  unfold PropDef.WF; cases p.ty <;> simp only <;> infer_instance

def SchemaDef.propsOf (sch : SchemaDef) (variant : Option Nat) : List PropDef :=
  sch.common ++ (match variant with | some vi => (sch.variants.getD vi ([], [])).2 | none => [])

def EntryIn.WF (sch : SchemaDef) (e : EntryIn) : Prop :=
  (match e.variant with
    | none => sch.variants = []
    | some vi => vi < sch.variants.length) ∧
  e.values.length = (sch.propsOf e.variant).length ∧
  (∀ v ∈ e.values, v.inRange) ∧
  (∀ pv ∈ (sch.propsOf e.variant).zip e.values, Val.hasType pv.1.ty pv.2)

instance (sch : SchemaDef) (e : EntryIn) : Decidable (e.WF sch) := by
  unfold EntryIn.WF; cases e.variant <;> simp only <;> infer_instance

/-- `storeKinds.length < 256`: the value store count is one byte of the directory pack header (and
    store indexes are one byte in property headers).  Nothing is asked of `d.indexes`: the entries
    read back whatever they are, and `dirGetIndex_dirPackWrite` asks `IndexDef.WF` itself. -/
def DirIn.WF (d : DirIn) : Prop :=
  d.storeKinds.length < 256 ∧
  (∀ p ∈ d.schema.common, p.WF d.storeKinds.length) ∧
  (∀ v ∈ d.schema.variants, v.1.length ≤ 255 ∧ ∀ p ∈ v.2, p.WF d.storeKinds.length) ∧
  (∀ e ∈ d.entries, e.WF d.schema)

instance (d : DirIn) : Decidable d.WF := by unfold DirIn.WF; infer_instance

/-- index definition: count and offset are `u32` fields, the name a p-string -/
def IndexDef.WF (ix : IndexDef) : Prop :=
  ix.name.length ≤ 255 ∧ ix.count < 2 ^ 32 ∧ ix.offset < 2 ^ 32

instance (ix : IndexDef) : Decidable ix.WF := by unfold IndexDef.WF; infer_instance

theorem DirIn.WF.storeCount {d : DirIn} (h : d.WF) : d.storeKinds.length < 256 := h.1

theorem DirIn.WF.common {d : DirIn} (h : d.WF) :
    ∀ p ∈ d.schema.common, p.WF d.storeKinds.length := h.2.1

theorem DirIn.WF.variants {d : DirIn} (h : d.WF) :
    ∀ v ∈ d.schema.variants, v.1.length ≤ 255 ∧ ∀ p ∈ v.2, p.WF d.storeKinds.length := h.2.2.1

theorem DirIn.WF.entries {d : DirIn} (h : d.WF) : ∀ e ∈ d.entries, e.WF d.schema := h.2.2.2

theorem EntryIn.WF.variants_nil {sch : SchemaDef} {e : EntryIn} (h : e.WF sch)
    (hv : e.variant = none) : sch.variants = [] := by
  have := h.1; rwa [hv] at this

theorem EntryIn.WF.variant_lt {sch : SchemaDef} {e : EntryIn} (h : e.WF sch) {vi : Nat}
    (hv : e.variant = some vi) : vi < sch.variants.length := by
  have := h.1; rwa [hv] at this

theorem EntryIn.WF.length {sch : SchemaDef} {e : EntryIn} (h : e.WF sch) :
    e.values.length = (sch.propsOf e.variant).length := h.2.1

theorem EntryIn.WF.inRange {sch : SchemaDef} {e : EntryIn} (h : e.WF sch) :
    ∀ v ∈ e.values, v.inRange := h.2.2.1

theorem EntryIn.WF.typed {sch : SchemaDef} {e : EntryIn} (h : e.WF sch) :
    ∀ pv ∈ (sch.propsOf e.variant).zip e.values, Val.hasType pv.1.ty pv.2 := h.2.2.2

theorem uintOf_lt (w : Val) (h : w.inRange) : uintOf w < 2 ^ 64 := by
  cases w <;> simp only [uintOf, Val.inRange] at * <;> omega

theorem sintOf_range (w : Val) (h : w.inRange) : -(2 ^ 63 : Int) ≤ sintOf w ∧ sintOf w < 2 ^ 63 := by
  cases w <;> simp only [sintOf, Val.inRange] at * <;> omega

theorem packOf_lt (w : Val) (h : w.inRange) : packOf w < 2 ^ 16 := by
  cases w <;> simp only [packOf, Val.inRange] at * <;> omega

theorem cidOf_lt (w : Val) (h : w.inRange) : cidOf w < 2 ^ 32 := by
  cases w <;> simp only [cidOf, Val.inRange] at * <;> omega

theorem arrayOf_lt (w : Val) (h : w.inRange) : (arrayOf w).length < 2 ^ 24 := by
  cases w <;> simp only [arrayOf, Val.inRange, List.length_nil] at * <;> omega

theorem sintOf_column_fits (col : List Val) (hcol : ∀ w ∈ col, w.inRange) (i : Int)
    (hi : i ∈ col.map sintOf) :
    fitsSigned i (neededBytes (listMax (col.map (fun v => signedSizeKey (sintOf v))))) := by
  have := sint_column_fits (col.map sintOf) (by
    intro x hx
    obtain ⟨w, hw, rfl⟩ := List.mem_map.1 hx
    exact sintOf_range w (hcol w hw)) i hi
  simpa only [List.map_map, Function.comp_def] using this

theorem finalizeProp_name (stores : List VStore) (p : PropDef) (col : List Val) :
    (finalizeProp stores p col).name = p.name := by
  unfold finalizeProp
  cases p.ty <;> simp only <;> split <;> rfl

theorem finalizeProp_nonstruct (stores : List VStore) (p : PropDef) (col : List Val) :
    ¬ (finalizeProp stores p col).structural := by
  unfold RawProp.structural finalizeProp
  cases p.ty <;> simp only <;> split <;> simp

/-- `hks`: the key size of a store an array property uses is 3 bits of the complement byte of the
    property header -/
theorem finalizeProp_writable (stores : List VStore)
    (hks : ∀ st, st < stores.length → (stores.getD st vsDflt).keySize ≤ 7) (p : PropDef)
    (col : List Val) (hp : p.WF stores.length) (hs256 : stores.length ≤ 256)
    (hcol : ∀ w ∈ col, w.inRange) : (finalizeProp stores p col).Writable := by
  obtain ⟨hname, hty⟩ := hp
  refine ⟨by rw [finalizeProp_name]; exact hname, ?_⟩
  unfold finalizeProp
  cases hpt : p.ty with
  | uint =>
    obtain ⟨h1, h8⟩ := neededBytes_listMax_bounds col uintOf 8 (by decide)
      (fun w hw => uintOf_lt w (hcol w hw))
    cases hd : constantOf (col.map uintOf) with
    | some d => exact ⟨h1, h8, rfl, uint_column_fits _ d (constantOf_some _ d hd).1⟩
    | none => exact ⟨h1, h8, rfl⟩
  | sint =>
    obtain ⟨h1, h8⟩ := neededBytes_listMax_bounds col (fun v => signedSizeKey (sintOf v)) 8 (by decide)
      (fun w _ => Nat.lt_trans (signedSizeKey_lt _) (by decide))
    cases hd : constantOf (col.map sintOf) with
    | some d => exact ⟨h1, h8, rfl, sintOf_column_fits col hcol d (constantOf_some _ d hd).1⟩
    | none => exact ⟨h1, h8, rfl⟩
  | content =>
    obtain ⟨hp1, hp2⟩ := neededBytes_listMax_bounds col packOf 2 (by decide)
      (fun w hw => packOf_lt w (hcol w hw))
    obtain ⟨hc1, hc4⟩ := neededBytes_listMax_bounds col cidOf 4 (by decide)
      (fun w hw => cidOf_lt w (hcol w hw))
    cases hd : constantOf (col.map packOf) with
    | some d => exact ⟨by omega, hc1, hc4, rfl, uint_column_fits _ d (constantOf_some _ d hd).1⟩
    | none => exact ⟨by omega, hc1, hc4, rfl⟩
  | array fixed st =>
    rw [hpt] at hty
    obtain ⟨hfx, hst⟩ := hty
    have hk7 := hks st hst
    have hk1 : 1 ≤ (stores.getD st vsDflt).keySize := by
      unfold VStore.keySize; split <;> exact (neededBytes_spec _).2
    simp only
    by_cases h0 : fixed = 0 ∧ (stores.getD st vsDflt).indexed = true
    · rw [if_pos h0]; exact ⟨rfl, hk1, hk7, by omega, rfl⟩
    · obtain ⟨hl1, hl3⟩ := neededBytes_listMax_bounds col (fun v => (arrayOf v).length) 3 (by decide)
        (fun w hw => arrayOf_lt w (hcol w hw))
      rw [if_neg h0]; exact ⟨hl1, hl3, hfx, hk1, hk7, by omega, rfl⟩

theorem finalizeProp_fits (stores : List VStore) (p : PropDef) (col : List Val) (v : Val)
    (hv : v ∈ col) (hty : Val.hasType p.ty v) (hcol : ∀ w ∈ col, w.inRange)
    (harr : ∀ fixed st a, p.ty = .array fixed st → v = .arr a →
      st < stores.length ∧ a.drop fixed ∈ (stores.getD st vsDflt).values) :
    fitsKind stores (finalizeProp stores p col).kind v := by
  unfold finalizeProp
  cases hpt : p.ty with
  | uint =>
    rw [hpt] at hty
    cases v <;> simp only [Val.hasType] at hty
    rename_i n
    have hn : n ∈ col.map uintOf := List.mem_map.2 ⟨_, hv, rfl⟩
    cases hd : constantOf (col.map uintOf) with
    | some d => obtain rfl := (constantOf_some _ d hd).2 n hn; exact .uintConst
    | none => exact .uint (uint_column_fits _ n hn)
  | sint =>
    rw [hpt] at hty
    cases v <;> simp only [Val.hasType] at hty
    rename_i i
    have hi : i ∈ col.map sintOf := List.mem_map.2 ⟨_, hv, rfl⟩
    cases hd : constantOf (col.map sintOf) with
    | some d => obtain rfl := (constantOf_some _ d hd).2 i hi; exact .sintConst
    | none => exact .sint (sintOf_column_fits col hcol i hi)
  | content =>
    rw [hpt] at hty
    cases v <;> simp only [Val.hasType] at hty
    rename_i pk c
    have hpk : pk ∈ col.map packOf := List.mem_map.2 ⟨_, hv, rfl⟩
    have hc : c ∈ col.map cidOf := List.mem_map.2 ⟨_, hv, rfl⟩
    have hr := hcol _ hv
    simp only [Val.inRange] at hr
    cases hd : constantOf (col.map packOf) with
    | some d =>
      obtain rfl := (constantOf_some _ d hd).2 pk hpk
      exact .contentConst (uint_column_fits _ c hc)
    | none => exact .content (uint_column_fits _ pk hpk) (by omega) (uint_column_fits _ c hc)
  | array fixed st =>
    rw [hpt] at hty
    cases v <;> simp only [Val.hasType] at hty
    rename_i a
    obtain ⟨hst, hmem⟩ := harr fixed st a hpt rfl
    have hl : a.length ∈ col.map (fun v => (arrayOf v).length) := List.mem_map.2 ⟨_, hv, rfl⟩
    simp only
    by_cases h0 : fixed = 0 ∧ (stores.getD st vsDflt).indexed = true
    · rw [if_pos h0]
      obtain ⟨rfl, hix⟩ := h0
      simp only [List.drop_zero] at hmem
      exact .indirect hst hix hmem
    · rw [if_neg h0]
      exact .array (uint_column_fits _ _ hl) hst hmem

theorem paddingProps_struct (n : Nat) : ∀ p ∈ paddingProps n, p.structural :=
  fun p hp => Or.inl (paddingProps_spec n p hp).2.1

def finList (stores : List VStore) (colOf : Nat → List Val) (defs : List PropDef) : List RawProp :=
  defs.zipIdx.map (fun pk => finalizeProp stores pk.1 (colOf pk.2))

theorem finList_length (stores : List VStore) (colOf : Nat → List Val) (defs : List PropDef) :
    (finList stores colOf defs).length = defs.length := by
  simp [finList]

theorem finList_getElem? (stores : List VStore) (colOf : Nat → List Val) (defs : List PropDef)
    (j : Nat) :
    (finList stores colOf defs)[j]? = defs[j]?.map (fun p => finalizeProp stores p (colOf j)) := by
  simp only [finList, List.getElem?_map, List.getElem?_zipIdx, Option.map_map, Nat.zero_add]
  rfl

theorem finList_mem (stores : List VStore) (colOf : Nat → List Val) (defs : List PropDef)
    (q : RawProp) (hq : q ∈ finList stores colOf defs) :
    ∃ j p, defs[j]? = some p ∧ q = finalizeProp stores p (colOf j) := by
  obtain ⟨j, hj⟩ := List.mem_iff_getElem?.1 hq
  rw [finList_getElem?] at hj
  obtain ⟨p, hd, rfl⟩ := Option.map_eq_some_iff.1 hj
  exact ⟨j, p, hd, rfl⟩

theorem finList_nonstruct (stores : List VStore) (colOf : Nat → List Val) (defs : List PropDef) :
    ∀ q ∈ finList stores colOf defs, ¬ q.structural := by
  intro q hq
  obtain ⟨j, p, -, rfl⟩ := finList_mem stores colOf defs q hq
  exact finalizeProp_nonstruct stores p (colOf j)

theorem finList_names (stores : List VStore) (colOf : Nat → List Val) (defs : List PropDef) :
    (finList stores colOf defs).map RawProp.name = defs.map PropDef.name := by
  apply List.ext_getElem?
  intro j
  simp only [List.getElem?_map, finList_getElem?, Option.map_map]
  cases defs[j]? with
  | none => rfl
  | some p => simp [finalizeProp_name]

/-! `fs…`: the parts of `finalizeSchema stores sch entries` (`finalizeSchema_eq`).  `DirIn.common`,
`DirIn.vars` and `DirIn.entrySize` below are these parts at a writer input `d`. -/

def fsCommon (stores : List VStore) (sch : SchemaDef) (entries : List EntryIn) : List RawProp :=
  finList stores (columnCommon entries) sch.common

def fsBody (stores : List VStore) (sch : SchemaDef) (entries : List EntryIn) (vi : Nat)
    (ps : List PropDef) : List RawProp :=
  finList stores (columnVariant sch.common.length entries vi) ps

def fsBodies (stores : List VStore) (sch : SchemaDef) (entries : List EntryIn) :
    List (Bytes × List RawProp) :=
  sch.variants.zipIdx.map (fun x => (x.1.1, fsBody stores sch entries x.2 x.1.2))

def fsMx (bodies : List (Bytes × List RawProp)) : Nat :=
  listMax (bodies.map (fun b => 1 + propsSize b.2))

def fsVars (bodies : List (Bytes × List RawProp)) : List (Bytes × List RawProp) :=
  bodies.map (fun b => (b.1, b.2 ++ paddingProps (fsMx bodies - (1 + propsSize b.2))))

theorem finalizeSchema_eq (stores : List VStore) (sch : SchemaDef) (entries : List EntryIn) :
    finalizeSchema stores sch entries =
      ⟨fsCommon stores sch entries, rawVariants (fsVars (fsBodies stores sch entries)),
        propsSize (fsCommon stores sch entries) +
          (if sch.variants.length = 0 then 0 else fsMx (fsBodies stores sch entries))⟩ := by
  have hv : (sch.variants.zipIdx.map (fun (x : (Bytes × List PropDef) × Nat) =>
      (⟨1, x.1.1, .variantId⟩ : RawProp) ::
        x.1.2.zipIdx.map (fun pk => finalizeProp stores pk.1
          (columnVariant sch.common.length entries x.2 pk.2)))) =
      rawVariants (fsBodies stores sch entries) := by
    simp only [rawVariants, fsBodies, List.map_map]
    rfl
  have hsz : (rawVariants (fsBodies stores sch entries)).map propsSize =
      (fsBodies stores sch entries).map (fun b => 1 + propsSize b.2) := by
    simp only [rawVariants, List.map_map]
    apply List.map_congr_left
    intro b _
    simp only [Function.comp, propsSize_cons, vidProp]
  unfold finalizeSchema
  show (if (sch.variants.zipIdx.map _).isEmpty = true then _ else _) = _
  rw [hv]
  by_cases h0 : sch.variants.length = 0
  · have : sch.variants = [] := List.eq_nil_of_length_eq_zero h0
    simp [this, fsBodies, rawVariants, fsVars, fsCommon, finList]
  · have hne : (rawVariants (fsBodies stores sch entries)).isEmpty = false := by
      cases hs : sch.variants with
      | nil => rw [hs] at h0; exact absurd rfl h0
      | cons a l => simp [rawVariants, fsBodies, hs]
    rw [hne, if_neg h0]
    simp only [Bool.false_eq_true, if_false, hsz]
    congr 1
    simp only [rawVariants, fsVars, List.map_map, fsMx]
    apply List.map_congr_left
    intro b _
    simp only [Function.comp, propsSize_cons, vidProp, List.cons_append]

theorem fsBodies_getElem? (stores : List VStore) (sch : SchemaDef) (entries : List EntryIn)
    (vi : Nat) :
    (fsBodies stores sch entries)[vi]? =
      sch.variants[vi]?.map (fun v => (v.1, fsBody stores sch entries vi v.2)) := by
  simp only [fsBodies, List.getElem?_map, List.getElem?_zipIdx, Option.map_map, Nat.zero_add]
  rfl

theorem fsVars_length (bodies : List (Bytes × List RawProp)) :
    (fsVars bodies).length = bodies.length := by simp [fsVars]

theorem fsBodies_length (stores : List VStore) (sch : SchemaDef) (entries : List EntryIn) :
    (fsBodies stores sch entries).length = sch.variants.length := by simp [fsBodies]

theorem fsVars_size (bodies : List (Bytes × List RawProp)) (b : Bytes × List RawProp)
    (hb : b ∈ fsVars bodies) : 1 + propsSize b.2 = fsMx bodies := by
  simp only [fsVars, List.mem_map] at hb
  obtain ⟨b0, hb0, rfl⟩ := hb
  have : 1 + propsSize b0.2 ≤ fsMx bodies :=
    le_listMax _ _ (List.mem_map.2 ⟨b0, hb0, rfl⟩)
  simp only [propsSize_append, paddingProps_size]
  omega

def DirIn.common (d : DirIn) : List RawProp := fsCommon d.stores d.schema d.entries

def DirIn.vars (d : DirIn) : List (Bytes × List RawProp) :=
  fsVars (fsBodies d.stores d.schema d.entries)

def DirIn.entrySize (d : DirIn) : Nat :=
  propsSize d.common +
    (if d.schema.variants.length = 0 then 0 else fsMx (fsBodies d.stores d.schema d.entries))

theorem DirIn.layout_eq (d : DirIn) : d.layout = ⟨d.common, rawVariants d.vars, d.entrySize⟩ :=
  finalizeSchema_eq d.stores d.schema d.entries

theorem DirIn.common_eq (d : DirIn) :
    d.common = finList d.stores (columnCommon d.entries) d.schema.common := rfl

theorem DirIn.common_length (d : DirIn) : d.common.length = d.schema.common.length :=
  finList_length _ _ _

theorem DirIn.vars_length (d : DirIn) : d.vars.length = d.schema.variants.length := by
  simp [DirIn.vars, fsVars_length, fsBodies_length]

theorem mem_addedTo (sch : SchemaDef) (entries : List EntryIn) (e : EntryIn) (he : e ∈ entries)
    (p : PropDef) (v : Val) (hpv : (p, v) ∈ (sch.propsOf e.variant).zip e.values)
    (fixed st : Nat) (hty : p.ty = .array fixed st) :
    (arrayOf v).drop fixed ∈ addedTo sch entries st := by
  unfold addedTo
  rw [List.mem_flatten]
  refine ⟨_, List.mem_map.2 ⟨e, he, rfl⟩, ?_⟩
  rw [List.mem_filterMap]
  refine ⟨(p, v), hpv, ?_⟩
  simp only [hty, if_true]

theorem mem_columnCommon (entries : List EntryIn) (e : EntryIn) (he : e ∈ entries) (k : Nat) :
    e.values.getD k (.u 0) ∈ columnCommon entries k :=
  List.mem_map.2 ⟨e, he, rfl⟩

theorem mem_columnVariant (nc : Nat) (entries : List EntryIn) (e : EntryIn) (he : e ∈ entries)
    (vi : Nat) (hv : e.variant = some vi) (k : Nat) :
    e.values.getD (nc + k) (.u 0) ∈ columnVariant nc entries vi k :=
  List.mem_map.2 ⟨e, List.mem_filter.2 ⟨he, by simp [hv]⟩, rfl⟩

theorem getD_inRange (vals : List Val) (h : ∀ v ∈ vals, v.inRange) (k : Nat) :
    (vals.getD k (.u 0)).inRange := by
  rw [List.getD_eq_getElem?_getD]
  cases hk : vals[k]? with
  | none => simp only [Option.getD_none, Val.inRange]; decide
  | some v => exact h v (List.mem_of_getElem? hk)

theorem columnCommon_inRange (d : DirIn) (hwf : d.WF) (k : Nat) :
    ∀ w ∈ columnCommon d.entries k, w.inRange := by
  intro w hw
  obtain ⟨e, he, rfl⟩ := List.mem_map.1 hw
  exact getD_inRange _ (hwf.entries e he).inRange k

theorem columnVariant_inRange (d : DirIn) (hwf : d.WF) (nc vi k : Nat) :
    ∀ w ∈ columnVariant nc d.entries vi k, w.inRange := by
  intro w hw
  obtain ⟨e, he, rfl⟩ := List.mem_map.1 hw
  exact getD_inRange _ (hwf.entries e (List.mem_filter.1 he).1).inRange _

/-- ids are stored on at most 7 bytes: 3 bits of the complement byte of an array property header -/
def DirIn.KeysOk (d : DirIn) : Prop :=
  ∀ st, st < d.stores.length → (d.stores.getD st vsDflt).keySize ≤ 7

theorem DirIn.propDef_writable (d : DirIn) (hwf : d.WF) (hk : d.KeysOk) (p : PropDef)
    (hp : p.WF d.storeKinds.length) (col : List Val) (hcol : ∀ w ∈ col, w.inRange) :
    (finalizeProp d.stores p col).Writable :=
  finalizeProp_writable d.stores hk p col (by rw [d.stores_length]; exact hp)
    (by rw [d.stores_length]; exact Nat.le_of_lt hwf.storeCount) hcol

theorem DirIn.common_ok (d : DirIn) (hwf : d.WF) (hk : d.KeysOk) :
    ∀ p ∈ d.common, p.Writable ∧ ¬ p.structural := by
  intro q hq
  obtain ⟨j, p, hj, rfl⟩ := finList_mem _ _ _ q hq
  exact ⟨d.propDef_writable hwf hk p (hwf.common p (List.mem_of_getElem? hj)) _
    (columnCommon_inRange d hwf j), finalizeProp_nonstruct d.stores p _⟩

theorem DirIn.common_writable (d : DirIn) (hwf : d.WF) (hk : d.KeysOk) :
    ∀ p ∈ d.common, p.Writable ∧ p.kind ≠ .variantId := fun p hp =>
  ⟨(d.common_ok hwf hk p hp).1, fun h => (d.common_ok hwf hk p hp).2 (.inr h)⟩

theorem DirIn.vars_getElem? (d : DirIn) (vi : Nat) :
    d.vars[vi]? = d.schema.variants[vi]?.map (fun v =>
      (v.1, fsBody d.stores d.schema d.entries vi v.2 ++
        paddingProps (fsMx (fsBodies d.stores d.schema d.entries) -
          (1 + propsSize (fsBody d.stores d.schema d.entries vi v.2))))) := by
  simp only [DirIn.vars, fsVars, List.getElem?_map, fsBodies_getElem?, Option.map_map]
  rfl

theorem DirIn.vars_writable (d : DirIn) (hwf : d.WF) (hk : d.KeysOk) :
    ∀ b ∈ d.vars, b.1.length ≤ 255 ∧ (∀ p ∈ b.2, p.Writable ∧ p.kind ≠ .variantId) ∧
      propsSize d.common + 1 + propsSize b.2 = d.entrySize := by
  intro b hb
  have hsize := fsVars_size _ b hb
  obtain ⟨vi, hvi⟩ := List.mem_iff_getElem?.1 hb
  rw [d.vars_getElem?] at hvi
  obtain ⟨v, hv, hvi⟩ := Option.map_eq_some_iff.1 hvi
  have hvm : v ∈ d.schema.variants := List.mem_of_getElem? hv
  obtain ⟨hvn, hvp⟩ := hwf.variants v hvm
  have hne : d.schema.variants.length ≠ 0 := by
    intro h0
    rw [List.eq_nil_of_length_eq_zero h0] at hvm
    cases hvm
  refine ⟨by rw [← hvi]; exact hvn, ?_, ?_⟩
  · intro q hq
    rw [← hvi] at hq
    rcases List.mem_append.1 hq with hq | hq
    · obtain ⟨j, p, hj, rfl⟩ := finList_mem _ _ _ q hq
      exact ⟨d.propDef_writable hwf hk p (hvp p (List.mem_of_getElem? hj)) _
        (columnVariant_inRange d hwf _ vi j), fun h => finalizeProp_nonstruct d.stores p _ (.inr h)⟩
    · refine ⟨paddingProps_writable _ q hq, ?_⟩
      rw [(paddingProps_spec _ q hq).2.1]
      intro h; cases h
  · simp only [DirIn.entrySize, if_neg hne]
    omega

theorem length_le_length_flatten {α : Type} (l : List (List α)) (h : ∀ x ∈ l, x ≠ []) :
    l.length ≤ l.flatten.length := by
  induction l with
  | nil => simp
  | cons x xs ih =>
    have := ih (fun y hy => h y (List.mem_cons_of_mem _ hy))
    have := List.length_pos_iff.2 (h x (List.mem_cons_self ..))
    simp only [List.length_cons, List.flatten_cons, List.length_append]
    omega

/-- every variant has its `VariantId` among the properties -/
theorem DirIn.vars_lt (d : DirIn)
    (hpc : (d.layout.common ++ d.layout.variants.flatten).length < 256) : d.vars.length < 256 := by
  have := length_le_length_flatten (rawVariants d.vars) (by
    intro x hx
    obtain ⟨b, -, rfl⟩ := List.mem_map.1 hx
    exact List.cons_ne_nil _ _)
  simp only [d.layout_eq, List.length_append] at hpc
  rw [show d.vars.length = (rawVariants d.vars).length by simp [rawVariants]]
  omega

def DirIn.readerLayout (d : DirIn) : Layout :=
  layoutOf d.common d.vars d.entrySize d.entries.length

theorem DirIn.layout_decode (d : DirIn) (hwf : d.WF) (hk : d.KeysOk)
    (hn : d.entries.length < 2 ^ 32) (hes : d.layout.entrySize < 2 ^ 16)
    (hpc : (d.layout.common ++ d.layout.variants.flatten).length < 256) :
    entryStoreTail d.layout d.entries.length = 0 :: layoutBytes d.layout d.entries.length ∧
    Layout.decode (layoutBytes d.layout d.entries.length) = .ok d.readerLayout := by
  refine ⟨entryStoreTail_eq _ _, ?_⟩
  have hvc := d.vars_lt hpc
  rw [d.layout_eq] at hes hpc ⊢
  exact Layout_decode_layoutBytes d.common d.vars d.entrySize d.entries.length
    (d.common_writable hwf hk) (d.vars_writable hwf hk) hn hes hvc hpc

def expectedEntry (sch : SchemaDef) (e : EntryIn) : EntryVal :=
  ⟨e.variant, ((sch.propsOf e.variant).map PropDef.name).zip e.values⟩

theorem DirIn.value_fits (d : DirIn) (hwf : d.WF) (e : EntryIn) (he : e ∈ d.entries) (k : Nat)
    (p : PropDef) (v : Val) (hp : (d.schema.propsOf e.variant)[k]? = some p)
    (hv : e.values[k]? = some v) (col : List Val) (hmem : v ∈ col)
    (hcol : ∀ w ∈ col, w.inRange) (hpwf : p.WF d.storeKinds.length) :
    fitsKind d.stores (finalizeProp d.stores p col).kind v := by
  have hewf := hwf.entries e he
  have hzip : (p, v) ∈ (d.schema.propsOf e.variant).zip e.values :=
    List.mem_of_getElem? (List.getElem?_zip_eq_some.2 ⟨hp, hv⟩)
  refine finalizeProp_fits d.stores p col v hmem (hewf.typed (p, v) hzip) hcol ?_
  intro fixed st a hty hva
  have hst : st < d.storeKinds.length := by
    have := hpwf.2
    rw [hty] at this
    exact this.2
  refine ⟨by rw [d.stores_length]; exact hst, ?_⟩
  rw [d.mem_store st hst]
  have := mem_addedTo d.schema d.entries e he p v hzip fixed st hty
  rw [hva] at this
  exact this

theorem zip_forall {α β} {P : α × β → Prop} (a : List α) (b : List β)
    (h : ∀ (j : Nat) x y, a[j]? = some x → b[j]? = some y → P (x, y)) : ∀ xy ∈ a.zip b, P xy := by
  intro xy hxy
  obtain ⟨j, hj⟩ := List.mem_iff_getElem?.1 hxy
  exact h j _ _ (List.getElem?_zip_eq_some.1 hj).1 (List.getElem?_zip_eq_some.1 hj).2

theorem DirIn.common_fits (d : DirIn) (hwf : d.WF) (e : EntryIn) (he : e ∈ d.entries) :
    ∀ pv ∈ d.common.zip e.values, fitsKind d.stores pv.1.kind pv.2 := by
  refine zip_forall _ _ fun j q v hq hv => ?_
  rw [d.common_eq, finList_getElem?] at hq
  obtain ⟨p, hj, rfl⟩ := Option.map_eq_some_iff.1 hq
  have hjl : j < d.schema.common.length := (List.getElem?_eq_some_iff.1 hj).1
  refine d.value_fits hwf e he j p v ?_ hv _ ?_ (columnCommon_inRange d hwf j)
    (hwf.common p (List.mem_of_getElem? hj))
  · rw [SchemaDef.propsOf.eq_def, List.getElem?_append_left hjl]; exact hj
  · have := mem_columnCommon d.entries e he j
    rw [List.getD_eq_getElem?_getD, hv] at this
    exact this

theorem DirIn.entry_roundtrip_none (d : DirIn) (hwf : d.WF) (hk : d.KeysOk)
    (getVS : Nat → Outcome (ValueStoreTail × Bytes)) (hvs : StoresAgree d.stores getVS)
    (e : EntryIn) (he : e ∈ d.entries) (hv : e.variant = none) :
    decodeEntry getVS d.readerLayout (serializeEntry d.stores d.layout e) =
      .ok (expectedEntry d.schema e) := by
  have hewf := hwf.entries e he
  have hnov : d.schema.variants = [] := hewf.variants_nil hv
  have hvars : d.vars = [] := by
    apply List.eq_nil_of_length_eq_zero
    rw [d.vars_length, hnov]; rfl
  have hlen : d.common.length ≤ e.values.length := by
    rw [d.common_length, hewf.length, SchemaDef.propsOf.eq_def, List.length_append]; omega
  simp only [serializeEntry, hv, d.layout_eq, DirIn.readerLayout, hvars]
  rw [decodeEntry_common d.stores getVS hvs d.common _ _ _ (d.common_ok hwf hk) hlen
    (d.common_fits hwf e he)]
  simp only [expectedEntry, hv, d.common_eq, finList_names, SchemaDef.propsOf, List.append_nil]

theorem DirIn.entry_roundtrip_some (d : DirIn) (hwf : d.WF) (hk : d.KeysOk)
    (getVS : Nat → Outcome (ValueStoreTail × Bytes)) (hvs : StoresAgree d.stores getVS)
    (e : EntryIn) (he : e ∈ d.entries) (vi : Nat) (hv : e.variant = some vi) (hvi256 : vi < 256) :
    decodeEntry getVS d.readerLayout (serializeEntry d.stores d.layout e) =
      .ok (expectedEntry d.schema e) := by
  have hewf := hwf.entries e he
  have hvi : vi < d.schema.variants.length := hewf.variant_lt hv
  have hget := d.vars_getElem? vi
  rw [List.getElem?_eq_getElem hvi, Option.map_some] at hget
  generalize hV : d.schema.variants[vi] = V at hget
  have hVm : V ∈ d.schema.variants := hV ▸ List.getElem_mem _
  have hprops : d.schema.propsOf (some vi) = d.schema.common ++ V.2 := by
    simp only [SchemaDef.propsOf, List.getD_eq_getElem?_getD, List.getElem?_eq_getElem hvi, hV]
    rfl
  generalize hP : paddingProps (fsMx (fsBodies d.stores d.schema d.entries) -
      (1 + propsSize (fsBody d.stores d.schema d.entries vi V.2))) = pad at hget
  have hlen : d.common.length + (fsBody d.stores d.schema d.entries vi V.2).length =
      e.values.length := by
    rw [hewf.length, hv, hprops, List.length_append, d.common_length, fsBody, finList_length]
  simp only [serializeEntry, hv, d.layout_eq, DirIn.readerLayout, rawVariants_getD _ _ _ _ hget]
  rw [decodeEntry_variant d.stores getVS hvs d.common _ pad d.vars vi V.1 _ _ _ hget hvi256
    (d.common_ok hwf hk) (fun q hq => ⟨((d.vars_writable hwf hk _ (List.mem_of_getElem? hget)).2.1 q
      (List.mem_append_left _ hq)).1, finList_nonstruct _ _ _ q hq⟩) (hP ▸ paddingProps_struct _)
    (Nat.le_of_eq hlen) (d.common_fits hwf e he)]
  · simp only [expectedEntry, hv, hprops, List.map_append, d.common_eq, finList_names, fsBody]
  · refine zip_forall _ _ fun j q v hq hvj => ?_
    rw [fsBody, finList_getElem?] at hq
    obtain ⟨p, hj, rfl⟩ := Option.map_eq_some_iff.1 hq
    rw [List.getElem?_drop, d.common_length] at hvj
    refine d.value_fits hwf e he (d.schema.common.length + j) p v ?_ hvj _ ?_
      (columnVariant_inRange d hwf _ vi j) ((hwf.variants V hVm).2 p (List.mem_of_getElem? hj))
    · rw [hv, hprops, List.getElem?_append_right (Nat.le_add_right _ _), Nat.add_sub_cancel_left]
      exact hj
    · have := mem_columnVariant d.schema.common.length d.entries e he vi hv j
      rw [List.getD_eq_getElem?_getD, hvj] at this
      exact this

/-- `hvc`: the variant id is one byte of the entry -/
theorem DirIn.entry_roundtrip (d : DirIn) (hwf : d.WF) (hk : d.KeysOk)
    (hvc : d.schema.variants.length ≤ 256)
    (getVS : Nat → Outcome (ValueStoreTail × Bytes)) (hvs : StoresAgree d.stores getVS)
    (e : EntryIn) (he : e ∈ d.entries) :
    decodeEntry getVS d.readerLayout (serializeEntry d.stores d.layout e) =
      .ok (expectedEntry d.schema e) := by
  cases hv : e.variant with
  | none => exact d.entry_roundtrip_none hwf hk getVS hvs e he hv
  | some vi =>
    have := (hwf.entries e he).variant_lt hv
    exact d.entry_roundtrip_some hwf hk getVS hvs e he vi hv (by omega)

end Jubako
