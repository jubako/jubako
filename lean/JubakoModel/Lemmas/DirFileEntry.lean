/-
Directory pack, file-level round trip: the entry codec, at the level of raw property lists.
`decodeProp` reads back what `serializeProp` wrote, for every property shape the creator writes;
`decodeEntry` on `serializeProps` returns all the values.
-/
import JubakoModel.Lemmas.DirFileStore
import JubakoModel.Lemmas.DirFileLayout

namespace Jubako

/-- `v` is representable in a property of kind `k`: one constructor per shape the creator writes,
    so that a proof about a representable value goes by cases on this, not on kind and value.  The
    bounds on the widths themselves are in `RawProp.Writable`. -/
inductive fitsKind (stores : List VStore) : PropKind → Val → Prop
  | uint {sz n : Nat} (h : n < 256 ^ sz) : fitsKind stores (.uint sz none) (.u n)
  | uintConst {sz d : Nat} : fitsKind stores (.uint sz (some d)) (.u d)
  | sint {sz : Nat} {i : Int} (h : fitsSigned i sz) : fitsKind stores (.sint sz none) (.s i)
  | sintConst {sz : Nat} {d : Int} : fitsKind stores (.sint sz (some d)) (.s d)
  | content {ps cs p c : Nat} (hp : p < 256 ^ ps) (hp16 : p < 65536) (hc : c < 256 ^ cs) :
    fitsKind stores (.content ps cs none) (.content p c)
  | contentConst {ps cs d c : Nat} (hc : c < 256 ^ cs) :
    fitsKind stores (.content ps cs (some d)) (.content d c)
  | array {ls fixed st : Nat} {a : Bytes} (hal : a.length < 256 ^ ls) (hst : st < stores.length)
    (hmem : a.drop fixed ∈ (stores.getD st vsDflt).values) :
    fitsKind stores (.array (some ls) fixed (some ((stores.getD st vsDflt).keySize, st)) none)
      (.arr a)
  | indirect {st : Nat} {a : Bytes} (hst : st < stores.length)
    (hix : (stores.getD st vsDflt).indexed = true)
    (hmem : a ∈ (stores.getD st vsDflt).values) :
    fitsKind stores (.array none 0 (some ((stores.getD st vsDflt).keySize, st)) none) (.arr a)

/-- `entryLE` has the body of `readUN`; this is `readUN_of_drop` for bytes that need not come from
    `leBytes` -/
theorem entryLE_of_drop {e b Z : Bytes} {off n : Nat} (h : e.drop off = b ++ Z) (hb : b.length = n)
    (hn : 0 < n) : entryLE e off n = .ok (leNat b) := by
  have hl := congrArg List.length h
  rw [List.length_drop, List.length_append, hb] at hl
  rw [entryLE, if_pos (by omega), slice_of_drop h hb]

def StoresAgree (stores : List VStore) (getVS : Nat → Outcome (ValueStoreTail × Bytes)) : Prop :=
  ∀ st, st < stores.length →
    getVS st = .ok ((stores.getD st vsDflt).tail, (stores.getD st vsDflt).data)

/-- Of `hw` the proof uses that the widths are positive, which a read at a cursor asks
    (`readUN_of_drop`), and `sz ≤ 8` for a signed integer. -/
theorem decodeProp_serializeProp (stores : List VStore)
    (getVS : Nat → Outcome (ValueStoreTail × Bytes)) (hvs : StoresAgree stores getVS)
    (p : RawProp) (v : Val) (variant : Option Nat) {e Z : Bytes} {off : Nat}
    (hc : e.drop off = serializeProp stores p v variant ++ Z)
    (hw : p.Writable) (hf : fitsKind stores p.kind v) :
    decodeProp getVS e ⟨off, p.name, p.kind⟩ = .ok v := by
  obtain ⟨size, name, kind⟩ := p
  simp only at hf ⊢
  cases hf with
  | uintConst => simp [decodeProp]
  | sintConst => simp [decodeProp]
  | uint hf =>
    obtain ⟨-, h1, -⟩ := hw
    simp only [decodeProp, entryLE_eq_readUN, readUN_of_drop hc h1 hf, Outcome.ok_bind]
    rfl
  | @sint sz i hf =>
    obtain ⟨-, h1, h8, -⟩ := hw
    have := entryLE_of_drop (b := leBytesInt i sz) hc (by simp [leBytesInt, leBytes_length]) h1
    simp only [decodeProp, this, Outcome.ok_bind]
    exact congrArg _ (congrArg _ (sint_roundtrip i sz h1 h8 hf))
  | contentConst hc' =>
    obtain ⟨-, -, h1, -⟩ := hw
    simp only [decodeProp, entryLE_eq_readUN, readUN_of_drop hc h1 hc', Outcome.ok_bind]
    rfl
  | @content ps cs pk c hp hp16 hc' =>
    obtain ⟨-, hps, h1, -⟩ := hw
    simp only [serializeProp, packOf, cidOf, List.append_assoc] at hc
    have c1 := drop_skip_len hc (leBytes_length pk ps)
    simp only [decodeProp, entryLE_eq_readUN, readUN_of_drop hc (by omega) hp,
      readUN_of_drop c1 h1 hc', Outcome.ok_bind, Nat.mod_eq_of_lt hp16]
  | @indirect st a hst hix hmem =>
    generalize hS : stores.getD st vsDflt = S at hix hmem hw hc
    obtain ⟨-, -, hk1, -⟩ := hw
    have hagree := hS ▸ hvs st hst
    have hid := VStore.idOf_lt S a hmem
    simp only [serializeProp, arrayOf, hS] at hc
    -- `off + 0 + 0`: the key's offset as `decodeProp` computes it, past a length field and an
    -- inline prefix that are both absent
    have h1 := readUN_of_drop (off := off + 0 + 0) hc hk1 hid
    have hb := Nat.le_trans (Nat.le_add_right _ _) (entryLE_eq_ok.1 h1).1
    simp only [decodeProp, entryLE_eq_readUN, h1, Outcome.ok_bind, hb, if_true,
      Outcome.pure_eq_ok, resolveArray, hagree, Option.map_none,
      valueStoreGet_unsized S hix a hmem, slice_zero_len, List.take_nil, List.nil_append]
  | @array ls fixed st a hal hst hmem =>
    have hdl : a.length - min a.length fixed = (a.drop fixed).length := by
      rw [List.length_drop, ← Nat.sub_eq_sub_min]
    generalize hS : stores.getD st vsDflt = S at hmem hw hc
    obtain ⟨-, hl1, -, -, hk1, -⟩ := hw
    have hagree := hS ▸ hvs st hst
    have hid := VStore.idOf_lt S (a.drop fixed) hmem
    -- the entry is the length, the inline prefix zero-filled to `fixed` bytes, the key
    generalize hB : a.take fixed ++ zeros (fixed - (a.take fixed).length) = B
    have hBl : B.length = fixed := by
      rw [← hB, List.length_append, zeros_length, Nat.add_sub_cancel' (List.length_take_le ..)]
    have hhead : B.take (min a.length fixed) = a.take fixed :=
      hB ▸ List.take_left' (by rw [List.length_take, Nat.min_comm])
    simp only [serializeProp, arrayOf, hS, List.append_assoc] at hc
    rw [← List.append_assoc (a.take fixed), hB] at hc
    have c1 := drop_skip_len hc (leBytes_length a.length ls)
    have h3 := readUN_of_drop (drop_skip_len c1 hBl) hk1 hid
    have hb := Nat.le_trans (Nat.le_add_right _ _) (entryLE_eq_ok.1 h3).1
    simp only [decodeProp, entryLE_eq_readUN, readUN_of_drop hc hl1 hal, slice_of_drop c1 hBl,
      h3, hb, Outcome.ok_bind, if_true, Outcome.pure_eq_ok, resolveArray, hagree,
      Option.map_some, hhead, hdl, valueStoreGet_sized S _ hmem, List.take_append_drop]

theorem serializeProp_length (stores : List VStore) (p : RawProp) (v : Val) (variant : Option Nat)
    (hw : p.Writable) : (serializeProp stores p v variant).length = p.size := by
  obtain ⟨size, name, kind⟩ := p
  obtain ⟨-, hw⟩ := hw
  simp only at hw
  cases kind with
  | padding => simp [serializeProp, zeros_length]
  | variantId => simp only at hw; simp [serializeProp, hw]
  | deportedInt a b c d => simp at hw
  | uint sz dflt =>
    cases dflt with
    | none => simp [serializeProp, leBytes_length, hw.2.2]
    | some d => simp [serializeProp, hw.2.2.1]
  | sint sz dflt =>
    cases dflt with
    | none => simp [serializeProp, leBytesInt, leBytes_length, hw.2.2]
    | some d => simp [serializeProp, hw.2.2.1]
  | content ps cs dflt =>
    cases dflt with
    | none => simp [serializeProp, leBytes_length, hw.2.2.2]
    | some d => simp [serializeProp, leBytes_length, hw.2.2.2.1]
  | array lenSize fixed dep dflt =>
    cases dflt with
    | some x => cases lenSize <;> cases dep <;> simp at hw
    | none =>
      cases dep with
      | none => cases lenSize <;> simp at hw
      | some kst =>
        obtain ⟨ks, st⟩ := kst
        cases lenSize with
        | none =>
          simp only at hw
          simp [serializeProp, leBytes_length, hw.2.2.2.2]
        | some ls =>
          simp only at hw
          simp only [serializeProp, List.length_append, leBytes_length, zeros_length,
            List.length_take, hw.2.2.2.2.2.2]
          omega

/-- The properties that take no value of the entry.  `restVals` spells the disjunction out, as
    `serializeProps` and `placeProps` of the model do. -/
def RawProp.structural (p : RawProp) : Prop := p.kind = .padding ∨ p.kind = .variantId

def restVals : List RawProp → List Val → List Val
  | [], vals => vals
  | p :: ps, vals =>
    if p.kind = .padding ∨ p.kind = .variantId then restVals ps vals
    else match vals with
      | [] => []
      | _ :: vs => restVals ps vs

theorem restVals_nil (l : List RawProp) : restVals l [] = [] := by
  induction l with
  | nil => rfl
  | cons p ps ih => simp [restVals, ih]

theorem restVals_struct (ps : List RawProp) (vals : List Val) (h : ∀ p ∈ ps, p.structural) :
    restVals ps vals = vals := by
  induction ps with
  | nil => rfl
  | cons p ps ih =>
    have hp : p.kind = .padding ∨ p.kind = .variantId := h p (List.mem_cons_self ..)
    simp only [restVals, if_pos hp, ih fun q hq => h q (List.mem_cons_of_mem _ hq)]

theorem restVals_nonstruct (ps : List RawProp) (vals : List Val) (h : ∀ p ∈ ps, ¬ p.structural) :
    restVals ps vals = vals.drop ps.length := by
  induction ps generalizing vals with
  | nil => rfl
  | cons p ps ih =>
    have hp : ¬ (p.kind = .padding ∨ p.kind = .variantId) := h p (List.mem_cons_self ..)
    simp only [restVals, if_neg hp]
    cases vals with
    | nil => simp
    | cons v vs => simpa using ih vs fun q hq => h q (List.mem_cons_of_mem _ hq)

theorem serializeProps_append (stores : List VStore) (variant : Option Nat)
    (ps qs : List RawProp) (vals : List Val) :
    serializeProps stores variant (ps ++ qs) vals =
      serializeProps stores variant ps vals ++ serializeProps stores variant qs (restVals ps vals) := by
  induction ps generalizing vals with
  | nil => simp [serializeProps, restVals]
  | cons p ps ih =>
    simp only [List.cons_append, serializeProps, restVals]
    split
    · rw [ih, List.append_assoc]
    · cases vals with
      | nil =>
        simp only [List.append_assoc]
        rw [ih]
        congr 2
        rw [restVals_nil]
      | cons v vs => simp only [List.append_assoc]; rw [ih]

theorem serializeProps_length (stores : List VStore) (variant : Option Nat) (ps : List RawProp)
    (vals : List Val) (hw : ∀ p ∈ ps, p.Writable) :
    (serializeProps stores variant ps vals).length = propsSize ps := by
  induction ps generalizing vals with
  | nil => simp [serializeProps, propsSize]
  | cons p ps ih =>
    have hp := hw p (List.mem_cons_self ..)
    have hps : ∀ q ∈ ps, q.Writable := fun q hq => hw q (List.mem_cons_of_mem _ hq)
    simp only [serializeProps, propsSize_cons]
    split
    · rw [List.length_append, serializeProp_length stores p _ variant hp, ih _ hps]
    · cases vals with
      | nil => simp only; rw [List.length_append, serializeProp_length stores p _ variant hp, ih _ hps]
      | cons v vs =>
        simp only; rw [List.length_append, serializeProp_length stores p _ variant hp, ih _ hps]

/-- the fold step of `decodeEntry`, named so that `decodeEntry_eq` can state the two folds -/
def decStep (getVS : Nat → Outcome (ValueStoreTail × Bytes)) (e : Bytes)
    (acc : List (Bytes × Val)) (p : PropAt) : Outcome (List (Bytes × Val)) := do
  let v ← decodeProp getVS e p
  pure (acc ++ [(p.name, v)])

theorem placeProps_struct (off : Nat) (pad : List RawProp) (h : ∀ p ∈ pad, p.structural) :
    placeProps off pad = [] := by
  induction pad generalizing off with
  | nil => rfl
  | cons p ps ih =>
    have hp : p.kind = .padding ∨ p.kind = .variantId := h p (List.mem_cons_self ..)
    simp only [placeProps, if_pos hp, ih _ fun q hq => h q (List.mem_cons_of_mem _ hq)]

/-- The codec is proved for the shape the creator builds — a run of properties that take a value
    (`ps`) closed by properties that take none (`pad`) — not for arbitrary interleavings:
    `finalizeSchema` produces nothing else, so `decodeEntry_common` and `decodeEntry_variant`
    need no more. -/
theorem decodeProps_serializeProps (stores : List VStore)
    (getVS : Nat → Outcome (ValueStoreTail × Bytes)) (hvs : StoresAgree stores getVS)
    (variant : Option Nat) (e : Bytes) (ps pad : List RawProp) (vals : List Val)
    (hps : ∀ p ∈ ps, p.Writable ∧ ¬ p.structural) (hpad : ∀ p ∈ pad, p.structural)
    (hl : ps.length ≤ vals.length) (hf : ∀ pv ∈ ps.zip vals, fitsKind stores pv.1.kind pv.2)
    {off : Nat} {Z : Bytes} (hc : e.drop off = serializeProps stores variant ps vals ++ Z)
    (acc : List (Bytes × Val)) :
    (placeProps off (ps ++ pad)).foldlM (decStep getVS e) acc =
      .ok (acc ++ (ps.map RawProp.name).zip vals) := by
  induction ps generalizing vals off acc with
  | nil => simp [placeProps_struct _ pad hpad]
  | cons p ps ih =>
    obtain ⟨hp, hst⟩ := hps p (List.mem_cons_self ..)
    change ¬ (p.kind = .padding ∨ p.kind = .variantId) at hst
    cases vals with
    | nil => simp at hl
    | cons v vs =>
      simp only [serializeProps, if_neg hst, List.append_assoc] at hc
      -- `placeProps` advances by `p.size`, the cursor by the length of what `serializeProp` wrote
      have := ih vs (fun q hq => hps q (List.mem_cons_of_mem _ hq)) (by simpa using hl)
        (fun pv hpv => hf pv (by simp [hpv]))
        (drop_skip_len hc (serializeProp_length stores p v variant hp)) (acc ++ [(p.name, v)])
      simp only [List.cons_append, placeProps, if_neg hst, List.foldlM_cons, decStep,
        decodeProp_serializeProp stores getVS hvs p v variant hc hp (hf (p, v) (by simp)),
        Outcome.ok_bind, Outcome.pure_eq_ok]
      rw [this, List.append_assoc, List.singleton_append]
      rfl

theorem decodeEntry_eq (getVS : Nat → Outcome (ValueStoreTail × Bytes)) (l : Layout) (e : Bytes) :
    decodeEntry getVS l e = (do
      let common ← l.common.foldlM (decStep getVS e) []
      match l.variantIdOffset with
      | none => .ok ⟨none, common⟩
      | some off => do
        let vid ← entryLE e off 1
        match l.variants[vid]? with
        | none => .ok ⟨some vid, common⟩
        | some (_, props) => do
          let vv ← props.foldlM (decStep getVS e) []
          .ok ⟨some vid, common ++ vv⟩) := rfl

theorem decodeEntry_common (stores : List VStore)
    (getVS : Nat → Outcome (ValueStoreTail × Bytes)) (hvs : StoresAgree stores getVS)
    (common : List RawProp) (vals : List Val) (entrySize n : Nat)
    (hc : ∀ p ∈ common, p.Writable ∧ ¬ p.structural) (hl : common.length ≤ vals.length)
    (hf : ∀ pv ∈ common.zip vals, fitsKind stores pv.1.kind pv.2) :
    decodeEntry getVS (layoutOf common [] entrySize n) (serializeProps stores none common vals) =
      .ok ⟨none, (common.map RawProp.name).zip vals⟩ := by
  have := decodeProps_serializeProps stores getVS hvs none
    (serializeProps stores none common vals) common [] vals hc (by simp) hl hf (off := 0) (Z := [])
    (List.append_nil _).symm []
  simp only [List.nil_append, List.append_nil] at this
  rw [decodeEntry_eq]
  simp only [layoutOf, this, Outcome.ok_bind, List.length_nil, ne_eq, not_true_eq_false, if_false]

theorem zip_append_drop {α β} (a b : List α) (l : List β) :
    (a ++ b).zip l = a.zip l ++ b.zip (l.drop a.length) := by
  induction a generalizing l with
  | nil => simp
  | cons x a ih => cases l <;> simp [ih]

/-- `hvi256`: the variant id is one byte in the entry -/
theorem decodeEntry_variant (stores : List VStore)
    (getVS : Nat → Outcome (ValueStoreTail × Bytes)) (hvs : StoresAgree stores getVS)
    (common body pad : List RawProp) (vars : List (Bytes × List RawProp)) (vi : Nat) (nm : Bytes)
    (vals : List Val) (entrySize n : Nat)
    (hget : vars[vi]? = some (nm, body ++ pad)) (hvi256 : vi < 256)
    (hc : ∀ p ∈ common, p.Writable ∧ ¬ p.structural) (hb : ∀ p ∈ body, p.Writable ∧ ¬ p.structural)
    (hpad : ∀ p ∈ pad, p.structural) (hl : common.length + body.length ≤ vals.length)
    (hf : ∀ pv ∈ common.zip vals, fitsKind stores pv.1.kind pv.2)
    (hfb : ∀ pv ∈ body.zip (vals.drop common.length), fitsKind stores pv.1.kind pv.2) :
    decodeEntry getVS (layoutOf common vars entrySize n)
        (serializeProps stores (some vi) (common ++ vidProp nm :: (body ++ pad)) vals) =
      .ok ⟨some vi, ((common ++ body).map RawProp.name).zip vals⟩ := by
  have hvk : (vidProp nm).kind = .padding ∨ (vidProp nm).kind = .variantId := Or.inr rfl
  rw [serializeProps_append, restVals_nonstruct _ _ fun p hp => (hc p hp).2]
  simp only [serializeProps, hvk, if_true, serializeProps_append _ _ body pad]
  rw [show serializeProp stores (vidProp nm) (.u 0) (some vi) = [UInt8.ofNat vi] by
    simp [serializeProp, vidProp]]
  -- the entry is the common part `C`, the variant byte, the variant body `V`, the padding `P`
  generalize hC : serializeProps stores (some vi) common vals = C
  have hCl : C.length = propsSize common :=
    hC ▸ serializeProps_length stores (some vi) common vals fun p hp => (hc p hp).1
  generalize hV : serializeProps stores (some vi) body (vals.drop common.length) = V
  generalize serializeProps stores (some vi) pad _ = P
  generalize hE : C ++ ([UInt8.ofNat vi] ++ (V ++ P)) = E
  have c1 : E.drop (propsSize common) = [UInt8.ofNat vi] ++ (V ++ P) := hE ▸ List.drop_left' hCl
  have h1 := decodeProps_serializeProps stores getVS hvs (some vi) E common [] vals hc (by simp)
    (by omega) hf (off := 0) (by rw [hC]; exact hE.symm) []
  have h2 := decodeProps_serializeProps stores getVS hvs (some vi) E body pad _ hb hpad
    (by rw [List.length_drop]; omega) hfb (by rw [hV]; exact drop_skip_len (k := 1) c1 rfl) []
  simp only [List.nil_append, List.append_nil] at h1 h2
  have h3 : entryLE E (propsSize common) 1 = .ok vi := by
    rw [entryLE_of_drop (n := 1) c1 rfl Nat.one_pos]
    simp [leNat, Nat.mod_eq_of_lt hvi256]
  have hne : vars.length ≠ 0 := Nat.ne_of_gt (Nat.zero_lt_of_lt (List.getElem?_eq_some_iff.1 hget).1)
  rw [decodeEntry_eq]
  simp only [layoutOf, h1, Outcome.ok_bind, hne, ne_eq, not_false_eq_true, if_true, h3,
    List.getElem?_map, hget, Option.map_some, h2, List.map_append, zip_append_drop, List.length_map]

end Jubako
