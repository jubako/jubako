/-
Ties of the views of a stored content (`Region::cut_rel` of `bases/types/range.rs`, the arithmetic of `ByteStream`
and its `read` in `reader/byte_stream.rs`) to the Rust bodies translated from the source on every run
(Generated/FuncsView.lean).
-/
import JubakoModel.Model.View
import JubakoModel.Generated.FuncsView

namespace Jubako

theorem gen_regionCutRel (r : Region) (off size : Nat) :
    ((r.cutRel off size).b, (r.cutRel off size).e) = Generated.regionCutRel r.b r.e off size := by
  simp [Region.cutRel, Generated.regionCutRel]

theorem gen_streamSizeLeft (s : Stream) : s.sizeLeft = Generated.streamSizeLeft s.r.b s.r.e s.cur := by
  simp [Stream.sizeLeft, Generated.streamSizeLeft]

theorem gen_streamSize (s : Stream) : s.size = Generated.streamSize s.r.b s.r.e s.cur := by
  simp [Stream.size, Region.size, Generated.streamSize]

theorem gen_streamOffset (s : Stream) : s.offset = Generated.streamOffset s.r.b s.r.e s.cur := by
  simp [Stream.offset, Generated.streamOffset]

/-- `ByteStream::read`: the translated part is the length asked of the source, `min(buf.len(), region.end -
    offset)`; `short` is what the source delivers -/
theorem gen_streamRead (s : Stream) (n short : Nat) :
    let req := Generated.streamReadRequest s.r.b s.r.e s.cur n
    let got := if short = 0 then min req (s.src.length - s.cur) else min short (min req (s.src.length - s.cur))
    s.read n short = (slice s.src s.cur got, { s with cur := s.cur + got }) := by
  simp [Stream.read, Generated.streamReadRequest]

end Jubako
