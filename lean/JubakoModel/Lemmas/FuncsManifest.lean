/-
Tie of `ManifestPack::new` (`reader/manifest_pack.rs`), translated from the source on every run
(Generated/FuncsOpen.lean), to `manifestOpen` of the reader model.
-/
import JubakoModel.Lemmas.FuncsOpen
import JubakoModel.Lemmas.OutcomeLemmas
namespace Jubako

/-- a pack info of kind "directory" (nothing to do with the file system); the model writes the lambda -/
def isDir (i : PackInfo) : Bool := decide (i.kind = PackKind.directory)

/-- one turn of the pack-info loop of `manifestOpen`, as `locStep` is one of the locator loop of `containerPackOpen` -/
def manifestInfoStep (f : Bytes) (base : Nat) (acc : List PackInfo) (k : Nat) : Outcome (List PackInfo) :=
  (readBlock f (base + k * packInfoBlockSize) 252).bind fun pb => (PackInfo.decode pb).bind fun info => .ok (acc ++ [info])

/-- The variables of the loop of `ManifestPack::new` are functions of the list of infos read so far:
    `directory_pack_info` is the last one of kind "directory", `pack_infos` the others in order (`max_id` is not
    looked at). -/
theorem manifestPackNew_loop_eq {V : Type} (f : Bytes) (base : Nat) (ph : Outcome PackHeader) (mh : Outcome ManifestHeader)
    (offs : PackHeader → ManifestHeader → List Nat) (vsAt : (Nat × Nat) → Outcome V) (ks : List Nat) :
    ∀ (acc : List PackInfo) (mx : Nat),
      (Generated.manifestPackNew_loop ph mh offs
          (fun off => (readBlock f off 252).bind fun pb => PackInfo.decode pb) vsAt
          ((acc.filter isDir).getLast?) (acc.filter (fun i => !isDir i)) mx
          (ks.map (fun k => base + k * packInfoBlockSize))).map' (fun r => (r.1, r.2.1)) =
        (ks.foldlM (manifestInfoStep f base) acc).map' (fun infos => ((infos.filter isDir).getLast?, infos.filter (fun i => !isDir i))) := by
  induction ks with
  | nil => intro acc mx; rfl
  | cons k ks ih =>
    intro acc mx
    simp only [List.map_cons, Generated.manifestPackNew_loop, List.foldlM_cons, bind, manifestInfoStep, Outcome.bind_assoc',
      Outcome.map'_bind, Outcome.bind_ok]
    refine Outcome.bind_congr fun pb _ => Outcome.bind_congr fun info _ => ?_
    -- in either arm the new variables are the ones `acc ++ [info]` determines
    split
    · next hk =>
      rw [← ih (acc ++ [info]) mx]
      simp [List.filter_append, isDir, hk]
    · next hk =>
      have hk : ¬ info.kind = PackKind.directory := hk
      rw [← ih (acc ++ [info]) (max mx info.packId)]
      simp [List.filter_append, isDir, hk]

theorem getLast?_filter_isSome {α : Type} (p : α → Bool) (l : List α) : ((l.filter p).getLast?).isSome = l.any p := by
  rw [Bool.eq_iff_iff, List.getLast?_isSome, ne_eq, List.filter_eq_nil_iff, List.any_eq_true]
  simp

/-- **Opening a manifest follows the source**: `ManifestPack::new` as translated on every run — header of kind
    "manifest", manifest header, the pack infos read at the offsets the (translated) `PackOffsetsIter` yields,
    the directory pack's info kept apart (the last one wins), the others kept in order, then the value store if
    any, then `directory_pack_info.unwrap()` — applied to the model's block reads, gives what `manifestOpen`
    gives: same header, same pack infos split the same way, same error, a panic exactly when no pack info is of
    kind "directory".  (Hypothesis: the pack infos fit before the check block — the model answers "panic" for
    the underflow of `PackOffsetsIter::new` otherwise.) -/
theorem gen_manifestOpen (f : Bytes)
    (hU : ∀ hd h mb m, readBlock f 0 60 = .ok hd → PackHeader.decode hd = .ok h → readBlock f 64 60 = .ok mb →
      ManifestHeader.decode mb = .ok m → m.packCount * packInfoBlockSize ≤ h.checkInfoPos) :
    ((Generated.manifestPackNew
        ((readBlock f 0 60).bind fun hd => PackHeader.decode hd)
        ((readBlock f 64 60).bind fun mb => ManifestHeader.decode mb)
        (fun h m => (List.range m.packCount).map (fun k => packInfosOffset h.checkInfoPos m.packCount + k * packInfoBlockSize))
        (fun off => (readBlock f off 252).bind fun pb => PackInfo.decode pb)
        (fun so => valueStoreOpen f so)).map' (fun r => (r.1, r.2.1, r.2.2.1, r.2.2.2.1))).Same
      ((manifestOpen f).bind fun r =>
        match (r.2.2.filter isDir).getLast? with
        | some d => .ok (r.1, r.2.1, d, r.2.2.filter (fun i => !isDir i))
        | none => .panic "") := by
  unfold Generated.manifestPackNew manifestOpen openHeader
  simp only [Bind.bind, Pure.pure, Outcome.bind_assoc', Outcome.map'_bind]
  refine Outcome.Same.bind_right fun hd h1 => Outcome.Same.bind_right fun h h2 => ?_
  by_cases hk : h.kind ≠ PackKind.manifest
  · simp only [hk, ne_eq, not_false_eq_true, if_true, if_false, Outcome.bind_err, Outcome.map'_err]; exact .rfl
  have hk := Decidable.not_not.mp hk
  simp only [hk, ne_eq, not_true_eq_false, if_true, if_false, Outcome.bind_ok, Outcome.map'_bind]
  refine Outcome.Same.bind_right fun mb h3 => Outcome.Same.bind_right fun m h4 => ?_
  rw [if_neg (Nat.not_lt.mpr (hU hd h mb m h1 h2 h3 h4)), Outcome.bind_assoc']
  refine .bind_of_map' (.of_eq (manifestPackNew_loop_eq f _ _ _ _ _ (List.range m.packCount) [] 0)) fun x infos hx => ?_
  simp only [Prod.mk.injEq] at hx
  -- `manifestOpen` spells `isDir` out
  have hany : _ = infos.any (fun i => decide (i.kind = PackKind.directory)) := getLast?_filter_isSome isDir infos
  simp only [hx.1, hx.2, ← hany]
  -- the arm `| none => .panic ""` of the statement is never reached: without a directory info `manifestOpen` has panicked
  cases hg : (infos.filter isDir).getLast? <;> by_cases hv : m.valueStore = (0, 0) <;>
    simp [-List.getLast?_filter, hv, hg, Generated.unwrapOpt, Outcome.map'_bind, Outcome.bind_assoc',
      Outcome.Same.bind_right_iff]

end Jubako
