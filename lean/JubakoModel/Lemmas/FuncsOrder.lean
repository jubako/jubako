/-
The creator's order on array values is the body translated from the Rust source on every run
(Generated/FuncsOrder.lean).
-/
import JubakoModel.Model.Order
import JubakoModel.Generated.FuncsOrder

namespace Jubako

/-- the creator's `Array::cmp` (`creator/directory_pack/value.rs`); `Ordering.then` is spelt as the nested `match`
    of the source -/
theorem gen_writerArrCmp (vs : VStore) (fixed : Nat) (a b : Bytes) :
    writerArrCmp vs fixed a b =
      Generated.writerArrayCmp (lexCmp (a.take fixed) (b.take fixed)) (vs.idOf (a.drop fixed)) (vs.idOf (b.drop fixed))
        a.length b.length := by
  unfold writerArrCmp Generated.writerArrayCmp
  cases lexCmp (a.take fixed) (b.take fixed) <;> simp [Ordering.then] <;>
    cases compare (vs.idOf (a.drop fixed)) (vs.idOf (b.drop fixed)) <;> simp

end Jubako
