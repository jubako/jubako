/-
C11, non-vacuity: a concrete container and three ways of losing a pack (`namespace MissingExample`).

The entry file `"e"` is a container pack holding the manifest, the directory pack and content pack 1;
content packs 2 and 3 live in the files `"a"` and `"b"`.  That the container opens, that its packs are
found and that they verify follows from the round-trip theorems (Lemmas/Frame.lean,
Lemmas/VerifiesContainer.lean), so no CRC and no hash is computed; what is evaluated is lengths, uuids,
file names, the four pack infos.

The steps are stated about variables (`contentPack Hw x`, any `fs'`) and then instantiated, and headers
are passed explicitly: on closed terms a unification that is postponed or fails falls back to
evaluating the whole container.
-/
import JubakoModel.Lemmas.VerifiesContainer

namespace Jubako

namespace MissingExample

/-- a stand-in for blake3: the theorems assume nothing about the hash -/
def H : Bytes → Bytes := fun b => List.replicate 32 (UInt8.ofNat b.length)
/-- the hash a damaged pack was sealed with -/
def Hbad : Bytes → Bytes := fun _ => List.replicate 32 255

def uu (x : UInt8) : Bytes := List.replicate 16 x

def hdr (k : PackKind) (x : UInt8) (size cip : Nat) : PackHeader :=
  ⟨k, [0, 0, 0, 0], Consts.versionGateMajor, Consts.versionGateMinor, uu x, 0, size, cip⟩

def contentPack (Hw : Bytes → Bytes) (x : UInt8) : Bytes :=
  framePack Hw id (hdr .content x 233 132)
    (block (ContentHeader.encode ⟨128, 128, 0, 0, zeros 24⟩) ++ block [])

def dirPack : Bytes :=
  framePack H id (hdr .directory 20 233 132)
    (block (DirectoryHeader.encode ⟨128, 128, 128, 0, 0, 0, zeros 24⟩) ++ block [])

def mkInfo (x : UInt8) (id : Nat) (k : PackKind) (loc : Bytes) : PackInfo :=
  ⟨uu x, 233, (132, 33), id, k, 0, 0, loc⟩

def infoD : PackInfo := mkInfo 20 0 .directory []
def info1 : PackInfo := mkInfo 1 1 .content []
def info2 : PackInfo := mkInfo 2 2 .content [97]
def info3 : PackInfo := mkInfo 3 3 .content [98]
def infos : List PackInfo := [infoD, info1, info2, info3]

def manifest : Bytes :=
  framePack H (manifestMask 128 4) (hdr .manifest 10 1253 1152)
    (block (ManifestHeader.encode ⟨4, (0, 0), zeros 24⟩) ++ (infos.map (fun i => block i.encode)).flatten)

def entry : Bytes :=
  containerPackWrite (uu 30) (zeros 24) [(uu 10, manifest), (uu 20, dirPack), (uu 1, contentPack H 1)]

def fs : FS := [("e", entry), ("a", contentPack H 2), ("b", contentPack H 3)]

def c : ContainerView :=
  ⟨"e", [⟨uu 10, 128, 1253⟩, ⟨uu 20, 1381, 233⟩, ⟨uu 1, 1614, 233⟩], manifest, infos, dirPack⟩

/-- also: `"a"` turned into a directory -/
def fsRemoved : FS := FS.remove fs "a"
def fsReplaced : FS := FS.put fs "a" (contentPack H 7)
def fsDamaged : FS := FS.put (FS.remove fs "a") "b" (contentPack Hbad 3)

theorem uu_length (x : UInt8) : (uu x).length = 16 := List.length_replicate
theorem H_length (x : Bytes) : (H x).length = 32 := List.length_replicate
theorem Hbad_length (x : Bytes) : (Hbad x).length = 32 := List.length_replicate

theorem hdr_WF (k : PackKind) (x : UInt8) (size cip : Nat) (hs : size < 2 ^ 64 := by decide)
    (hc : cip < 2 ^ 64 := by decide) : (hdr k x size cip).WF :=
  ⟨rfl, List.length_replicate, (by decide : Consts.versionGateMajor < 256),
    (by decide : Consts.versionGateMinor < 256), (by decide : 0 < 256), hs, hc⟩

def ch0 : ContentHeader := ⟨128, 128, 0, 0, zeros 24⟩
def dh0 : DirectoryHeader := ⟨128, 128, 128, 0, 0, 0, zeros 24⟩
def mh0 : ManifestHeader := ⟨4, (0, 0), zeros 24⟩

theorem infos_WF : ∀ p ∈ infos, p.WF := by
  intro p hp
  simp only [infos, List.mem_cons, List.not_mem_nil, or_false] at hp
  rcases hp with rfl | rfl | rfl | rfl <;>
    exact ⟨List.length_replicate, by decide, by decide, by decide, by decide, by decide, by decide, by decide⟩

theorem contentPack_frames (x : UInt8) : (hdr .content x 233 132).Frames (block ch0.encode ++ block []) :=
  ⟨hdr_WF _ x _ _, ⟨rfl, rfl⟩, by rfl, rfl⟩

theorem dirPack_frames : (hdr .directory 20 233 132).Frames (block dh0.encode ++ block []) :=
  ⟨hdr_WF _ _ _ _, ⟨rfl, rfl⟩, by rfl, rfl⟩

theorem manifest_frames :
    (hdr .manifest 10 1253 1152).Frames (block mh0.encode ++ infos.flatMap (fun i => block i.encode)) :=
  ⟨hdr_WF _ _ _ _, ⟨rfl, rfl⟩,
    by rw [List.length_append, block_length, ManifestHeader.encode_length mh0 rfl,
      infoBlocks_length infos infos_WF]; rfl, rfl⟩

theorem contentPack_length (Hw : Bytes → Bytes) (hH : ∀ b, (Hw b).length = 32) (x : UInt8) :
    (contentPack Hw x).length = 233 := framePack_length (contentPack_frames x) hH

theorem contentPack_header (Hw : Bytes → Bytes) (x : UInt8) :
    packHeaderOf (contentPack Hw x) = .ok (hdr .content x 233 132) := packHeaderOf_frame (contentPack_frames x)

theorem contentPack_open (Hw : Bytes → Bytes) (x : UInt8) :
    contentOpen (contentPack Hw x) = .ok (hdr .content x 233 132, ch0) := by
  have hel := PackHeader.encode_length _ (hdr_WF .content x 233 132)
  have hcl : ch0.encode.length = 60 := ContentHeader.encode_length ch0 rfl
  have c0 : contentPack Hw x = _ := framePack_eq Hw id _ (block ch0.encode ++ block [])
  rw [List.append_assoc] at c0
  generalize contentPack Hw x = f at c0 ⊢
  have c1 : f.drop 64 = _ := drop_skip_len (p := 0) c0 (by rw [block_length, hel])
  have ht : readBlock f 128 0 = .ok [] := readBlock_of_drop (drop_skip_len c1 (by rw [block_length, hcl])) rfl
  exact contentOpen_of_blocks _ ch0 (readBlock_of_drop c0 hel) (hdr_WF _ x _ _) ⟨rfl, rfl⟩ rfl
    (readBlock_of_drop c1 hcl) (by decide) (by decide) (by decide) (by decide) rfl ht ht

def hashed (x : UInt8) : Bytes := block (hdr .content x 233 132).encode ++ (block ch0.encode ++ block [])

theorem contentPack_check (Hw : Bytes → Bytes) (hH : ∀ b, (Hw b).length = 32) (x : UInt8) :
    contentOpenCheck H (contentPack Hw x) = .ok (H (hashed x) == Hw (hashed x)) := by
  unfold contentOpenCheck
  rw [contentPack_open, Outcome.ok_bind]
  exact packCheck_framePack H (contentPack_frames x) hH

theorem contentPack_verifies (x : UInt8) : PackVerifies H (contentPack H x) :=
  ⟨_, contentPack_header H x, (contentPack_length H H_length x).symm,
    (contentPack_check H H_length x).trans (by rw [beq_self_eq_true])⟩

theorem filePack_located (fs' : FS) (Hw : Bytes → Bytes) (hH : ∀ b, (Hw b).length = 32) (x : UInt8) (n : String)
    (hn : n ≠ "") (hget : FS.get fs' n = some (contentPack Hw x))
    (hne : c.entryPacks.find? (fun q => q.uuid == uu x) = none) :
    locate fs' "e" c.entryPacks (uu x) n = .ok (some ⟨n, ⟨uu x, 0, 233⟩⟩) ∧
    bytesOfLocated fs' ⟨n, ⟨uu x, 0, 233⟩⟩ = contentPack Hw x ∧
    locatedCheck H fs' ⟨n, ⟨uu x, 0, 233⟩⟩ = .ok (H (hashed x) == Hw (hashed x)) := by
  have := located_single H fs' "e" c.entryPacks n _ (hdr .content x 233 132) hne hn hget
    (contentPack_header Hw x) nofun
    (contentPack_length Hw hH x).symm
  have hc : kindOpenCheck H (hdr .content x 233 132).kind (contentPack Hw x) = _ := contentPack_check Hw hH x
  rwa [hc] at this

theorem manifest_layout : ManifestLayout manifest (hdr .manifest 10 1253 1152) mh0 128 infos := by
  have := ManifestLayout.of_concat (hdr .manifest 10 1253 1152) mh0 infos
    (block (CheckInfo.blake3 (H (manifestMask 128 4 (block (hdr .manifest 10 1253 1152).encode ++
      (block mh0.encode ++ infos.flatMap (fun i => block i.encode)))))).encode ++
        (block (hdr .manifest 10 1253 1152).encode).reverse)
    (hdr_WF _ _ _ _) ⟨rfl, rfl⟩ (by decide) (by decide) rfl rfl (by decide) rfl infos_WF
  rw [manifest, framePack_eq]
  simp only [List.append_assoc] at this ⊢
  exact this

theorem manifest_open : manifestOpen manifest = .ok (hdr .manifest 10 1253 1152, mh0, infos) :=
  manifest_layout.manifestOpen_eq rfl (Or.inl rfl) (by decide)

theorem manifest_ok : manifestCheck H c.manifest = .ok true := by
  show manifestCheck H manifest = _
  unfold manifestCheck
  rw [manifest_layout.manifestMaskOf_eq, Outcome.ok_bind]
  exact packCheck_framePack_self manifest_frames H_length

theorem dirPack_ok : packCheck H id c.dirPack = .ok true := packCheck_framePack_self dirPack_frames H_length

def packs3 : List (Bytes × Bytes) := [(uu 10, manifest), (uu 20, dirPack), (uu 1, contentPack H 1)]

theorem manifest_length : manifest.length = 1253 := framePack_length manifest_frames H_length
theorem dirPack_length : dirPack.length = 233 := framePack_length dirPack_frames H_length

theorem entryPacks_eq : packAts packs3 = c.entryPacks := by
  simp only [packs3, packAts, concatLayout_eq, layoutLocs, List.map, manifest_length, dirPack_length,
    contentPack_length H H_length]
  rfl

theorem entry_small : (containerPackWrite (uu 30) (zeros 24) packs3).length < 2 ^ 64 := by
  have hb : (cpwBody packs3).length = 1253 + (233 + (233 + 0)) := by
    show (manifest ++ (dirPack ++ (contentPack H 1 ++ []))).length = _
    rw [List.length_append, List.length_append, List.length_append, manifest_length, dirPack_length,
      contentPack_length H H_length]; rfl
  rw [containerPackWrite_length _ _ _ (uu_length 30) (zeros_length 24), cpwCheckPos,
    locTable_length _ (layoutLocs_uuid_length 0 _ (by decide)), layoutLocs_length, hb]
  decide

theorem manifest_first : packs3.find? (fun p => isManifestPack p.2) = some (uu 10, manifest) :=
  List.find?_cons_of_pos (p := fun p : Bytes × Bytes => isManifestPack p.2)
    (isManifestPack_of_header manifest _ (packHeaderOf_frame manifest_frames))

theorem entry_holds : Holds entry c.entryPacks packs3 :=
  entryPacks_eq ▸ Holds.written (uu 30) (zeros 24) packs3 (uu_length 30) (zeros_length 24) (by decide) (by decide)
    entry_small

/-- `c` is what the model's `Container::new` returns on `fs` -/
theorem open_fs : containerOpen fs "e" = .ok c :=
  entry_holds.containerOpen_ok (fs := fs) rfl (uu 10) manifest manifest_first _ manifest_open infoD (by decide)
    dirPack (by rfl)

theorem contentInfos_c : c.contentInfos = [info1, info2, info3] := by rfl
theorem infoOf_1 : c.infoOf 1 = some info1 := by rfl
theorem infoOf_2 : c.infoOf 2 = some info2 := by rfl
theorem infoOf_3 : c.infoOf 3 = some info3 := by rfl
theorem loc2 : locationString info2.location = "a" := by rfl
theorem loc3 : locationString info3.location = "b" := by rfl

theorem forall_content {P : PackInfo → Prop} (h1 : P info1) (h2 : P info2) (h3 : P info3) :
    ∀ info ∈ c.contentInfos, P info := by
  intro info hi
  rw [contentInfos_c] at hi
  simp only [List.mem_cons, List.not_mem_nil, or_false] at hi
  rcases hi with rfl | rfl | rfl <;> assumption

theorem encloses_1 : c.Encloses info1.uuid := ⟨⟨uu 1, 1614, 233⟩, by rfl⟩
theorem not_enclosed_2 : ∀ p ∈ c.entryPacks, p.uuid ≠ info2.uuid := by decide
theorem not_enclosed_3 : ∀ p ∈ c.entryPacks, p.uuid ≠ info3.uuid := by decide

theorem pack1_located (fs' : FS) (he : FS.get fs' "e" = some entry) :
    ∃ l, locate fs' c.entryFile c.entryPacks info1.uuid (locationString info1.location) = .ok (some l) ∧
      bytesOfLocated fs' l = contentPack H 1 :=
  let ⟨_, h1, h2⟩ := entry_holds.locate_held he (uu 1) (locationString info1.location) (b := contentPack H 1) (by rfl)
  ⟨_, h1, h2⟩

theorem pack1_present (fs' : FS) (he : FS.get fs' "e" = some entry) :
    ∃ l, locate fs' c.entryFile c.entryPacks info1.uuid (locationString info1.location) = .ok (some l) ∧
      locatedCheck H fs' l = .ok true := by
  obtain ⟨l, h1, h2⟩ := pack1_located fs' he
  exact ⟨l, h1, locatedCheck_of_verifies H fs' l (h2 ▸ contentPack_verifies 1)⟩

theorem fs_e : FS.get fs "e" = some entry := rfl

theorem found_1 : containerGetPack fs c 1 = .ok (.found (contentPack H 1)) := by
  obtain ⟨l, h1, h2⟩ := pack1_located fs fs_e
  rw [containerGetPack_found fs c 1 info1 l infoOf_1 h1, h2]

theorem found_2 : containerGetPack fs c 2 = .ok (.found (contentPack H 2)) := by
  obtain ⟨h1, h2, -⟩ := filePack_located fs H H_length 2 "a" (by decide) rfl (by decide)
  rw [containerGetPack_found fs c 2 info2 _ infoOf_2 h1, h2]

theorem found_3 : containerGetPack fs c 3 = .ok (.found (contentPack H 3)) := by
  obtain ⟨h1, h2, -⟩ := filePack_located fs H H_length 3 "b" (by decide) rfl (by decide)
  rw [containerGetPack_found fs c 3 info3 _ infoOf_3 h1, h2]

theorem filePack_present (fs' : FS) (info : PackInfo) (x : UInt8) (n : String) (hu : info.uuid = uu x)
    (hl : locationString info.location = n) (hn : n ≠ "") (hget : FS.get fs' n = some (contentPack H x))
    (hne : c.entryPacks.find? (fun q => q.uuid == uu x) = none) :
    ∃ l, locate fs' c.entryFile c.entryPacks info.uuid (locationString info.location) = .ok (some l) ∧
      locatedCheck H fs' l = .ok true := by
  obtain ⟨h1, -, h3⟩ := filePack_located fs' H H_length x n hn hget hne
  rw [hu, hl]
  exact ⟨_, h1, by rw [h3, beq_self_eq_true]⟩

theorem blindOpen_contentPack (Hw : Bytes → Bytes) (hH : ∀ b, (Hw b).length = 32) (x : UInt8) :
    blindOpen (contentPack Hw x) = .ok [⟨uu x, 0, 233⟩] := by
  have := blindOpen_single _ _ (contentPack_header Hw x) nofun (contentPack_length Hw hH x).symm
  rw [contentPack_length Hw hH x] at this
  exact this

theorem pack2_missing (fs' : FS) (ha : Unavailable fs' info2.uuid (locationString info2.location)) :
    locate fs' c.entryFile c.entryPacks info2.uuid (locationString info2.location) = .ok none :=
  locate_unavailable fs' c _ _ ((not_encloses_iff c _).mpr not_enclosed_2) ha

theorem unavailable_removed : Unavailable fsRemoved info2.uuid (locationString info2.location) :=
  Or.inl (FS.get_remove_self fs "a")

theorem unavailable_replaced : Unavailable fsReplaced info2.uuid (locationString info2.location) :=
  Or.inr ⟨contentPack H 7, [⟨uu 7, 0, 233⟩], FS.get_put_self fs "a" _, blindOpen_contentPack H H_length 7, by decide⟩

theorem unavailable_damaged : Unavailable fsDamaged info2.uuid (locationString info2.location) :=
  Or.inl (by
    show FS.get (FS.put (FS.remove fs "a") "b" _) "a" = none
    rw [FS.get_put_other _ "b" "a" _ (by decide)]
    exact FS.get_remove_self fs "a")

theorem disturbed_of (fs' : FS) (he : FS.get fs' "e" = FS.get fs "e")
    (hb : FS.get fs' "b" = FS.get fs "b")
    (ha : Unavailable fs' info2.uuid (locationString info2.location)) : Disturbed fs fs' c :=
  ⟨he, forall_content (Or.inl encloses_1) (Or.inr (Or.inr ha)) (Or.inr (Or.inl hb))⟩

theorem removed_e : FS.get fsRemoved "e" = FS.get fs "e" := FS.get_remove_other fs "a" "e" (by decide)
theorem removed_b : FS.get fsRemoved "b" = FS.get fs "b" := FS.get_remove_other fs "a" "b" (by decide)
theorem replaced_e : FS.get fsReplaced "e" = FS.get fs "e" := FS.get_put_other fs "a" "e" _ (by decide)
theorem replaced_b : FS.get fsReplaced "b" = FS.get fs "b" := FS.get_put_other fs "a" "b" _ (by decide)
theorem damaged_e : FS.get fsDamaged "e" = FS.get fs "e" := by
  show FS.get (FS.put (FS.remove fs "a") "b" _) "e" = _
  rw [FS.get_put_other _ "b" "e" _ (by decide)]
  exact FS.get_remove_other fs "a" "e" (by decide)

theorem disturbed_removed : Disturbed fs fsRemoved c :=
  disturbed_of fsRemoved removed_e removed_b unavailable_removed
theorem disturbed_replaced : Disturbed fs fsReplaced c :=
  disturbed_of fsReplaced replaced_e replaced_b unavailable_replaced

theorem dir_enclosed : ∀ di, (c.infos.filter (fun i => i.kind = .directory)).getLast? = some di →
    c.Encloses di.uuid := by
  intro di h
  have hd : (c.infos.filter (fun i => i.kind = .directory)).getLast? = some infoD := by rfl
  rw [hd] at h
  cases h
  exact ⟨⟨uu 20, 1381, 233⟩, by rfl⟩

/-! (0) the container still opens, to the same view -/

example : containerOpen fsRemoved "e" = .ok c :=
  missing_still_opens_disturbed fs fsRemoved "e" c open_fs disturbed_removed dir_enclosed
example : containerOpen fsReplaced "e" = .ok c :=
  missing_still_opens_disturbed fs fsReplaced "e" c open_fs disturbed_replaced dir_enclosed

/-! (1) frame: the available packs read as before — pack 3 from its own file, pack 1 from the entry
    file — with pack 2 removed, respectively replaced -/

example : containerGetPack fsRemoved c 3 = .ok (.found (contentPack H 3)) :=
  missing_available_found fs fsRemoved c 3 _ removed_e
    (by intro info hi; rw [infoOf_3] at hi; cases hi; exact Or.inr removed_b) found_3

example : containerGetPack fsReplaced c 3 = .ok (.found (contentPack H 3)) :=
  missing_available_found fs fsReplaced c 3 _ replaced_e
    (by intro info hi; rw [infoOf_3] at hi; cases hi; exact Or.inr replaced_b) found_3

example : containerGetPack fsDamaged c 1 = .ok (.found (contentPack H 1)) :=
  missing_available_found fs fsDamaged c 1 _ damaged_e
    (by intro info hi; rw [infoOf_1] at hi; cases hi; exact Or.inl encloses_1) found_1

example : containerGetPack fsRemoved c 3 = containerGetPack fs c 3 :=
  missing_frame_agreeOn fs fsRemoved c (fun n => n ≠ "a")
    (FS.agreeOn_remove fs "a" _ (by simp)) (by decide) 3
    (by intro info hi; rw [infoOf_3] at hi; cases hi; exact Or.inr (by decide))

/-! (2) missing: pack 2 is reported missing with its description, whether removed or replaced by
    a different valid pack -/

example : containerGetPack fsRemoved c 2 = .ok (.missing info2) :=
  missing_missing_of_unavailable fsRemoved c 2 info2 infoOf_2 not_enclosed_2 unavailable_removed

example : containerGetPack fsReplaced c 2 = .ok (.missing info2) :=
  missing_missing_of_unavailable fsReplaced c 2 info2 infoOf_2 not_enclosed_2 unavailable_replaced

example : containerGetPack fsDamaged c 2 = .ok (.missing info2) :=
  missing_missing_of_unavailable fsDamaged c 2 info2 infoOf_2 not_enclosed_2 unavailable_damaged

/-! (3) totality, for every pack id at once (the premise holds for ids 1, 2, 3: `found_*`) -/

example : ∀ packId b, containerGetPack fs c packId = .ok (.found b) →
    containerGetPack fsReplaced c packId = .ok (.found b) ∨
    ∃ info, c.infoOf packId = some info ∧ containerGetPack fsReplaced c packId = .ok (.missing info) :=
  fun packId b h => missing_total_found fs fsReplaced c disturbed_replaced packId b h

example : containerGetPack fsRemoved c 2 = .ok (.found (contentPack H 2)) ∨
    ∃ info, c.infoOf 2 = some info ∧ containerGetPack fsRemoved c 2 = .ok (.missing info) :=
  missing_total_found fs fsRemoved c disturbed_removed 2 _ found_2

theorem check_fs : containerCheck H fs c = .ok true :=
  missing_check_present_ok H fs c manifest_ok dirPack_ok <| forall_content
    (Or.inr (pack1_present fs fs_e))
    (Or.inr (filePack_present fs info2 2 "a" rfl loc2 (by decide) rfl (by decide)))
    (Or.inr (filePack_present fs info3 3 "b" rfl loc3 (by decide) rfl (by decide)))

/-- (4a) with pack 2 missing the check still passes: from the per-pack facts … -/
example : containerCheck H fsRemoved c = .ok true :=
  missing_check_present_ok H fsRemoved c manifest_ok dirPack_ok <| forall_content
    (Or.inr (pack1_present fsRemoved removed_e))
    (Or.inl (pack2_missing fsRemoved unavailable_removed))
    (Or.inr (filePack_present fsRemoved info3 3 "b" rfl loc3 (by decide) removed_b (by decide)))

/-- … or from the verdict on the undisturbed container -/
example : containerCheck H fsReplaced c = .ok true :=
  missing_check_disturbed_ok H fs fsReplaced c disturbed_replaced check_fs

theorem hashed_length (x : UInt8) : (hashed x).length = 132 := by
  simp only [hashed, List.length_append, block_length,
    PackHeader.encode_length _ (hdr_WF .content x 233 132), ContentHeader.encode_length ch0 rfl, List.length_nil]

theorem bad_verdict : (H (hashed 3) == Hbad (hashed 3)) = false := by
  show (List.replicate 32 (UInt8.ofNat (hashed 3).length) == List.replicate 32 255) = false
  rw [hashed_length]; decide

theorem damaged_b : FS.get fsDamaged "b" = some (contentPack Hbad 3) := FS.get_put_self _ _ _

theorem located_3_damaged :
    locate fsDamaged c.entryFile c.entryPacks info3.uuid (locationString info3.location) =
      .ok (some ⟨"b", ⟨uu 3, 0, 233⟩⟩) :=
  (filePack_located fsDamaged Hbad Hbad_length 3 "b" (by decide) damaged_b (by decide)).1

theorem check_3_damaged : locatedCheck H fsDamaged ⟨"b", ⟨uu 3, 0, 233⟩⟩ = .ok false :=
  (filePack_located fsDamaged Hbad Hbad_length 3 "b" (by decide) damaged_b (by decide)).2.2.trans
    (congrArg Outcome.ok bad_verdict)

/-- (4b) the earlier pack 2 is missing, the later pack 3 is present and damaged: the check does
    not pass — the walk does not stop at the missing pack -/
example : containerCheck H fsDamaged c ≠ .ok true :=
  missing_check_damaged H fsDamaged c info3 ⟨"b", ⟨uu 3, 0, 233⟩⟩
    (by rw [contentInfos_c]; simp) located_3_damaged
    (by rw [check_3_damaged]; intro h; cases h)

/-- and the verdict is exactly `false` -/
example : containerCheck H fsDamaged c = .ok false :=
  missing_check_damaged_false H fsDamaged c (fun i => i.packId != 3) info3
    (by rw [contentInfos_c]; simp) (by rfl) manifest_ok dirPack_ok <| forall_content
    (Or.inr (pack1_present fsDamaged damaged_e))
    (Or.inl ⟨pack2_missing fsDamaged unavailable_damaged, by rfl⟩)
    (Or.inr ⟨⟨"b", ⟨uu 3, 0, 233⟩⟩, located_3_damaged, check_3_damaged⟩)

/-- the single-pack reading of "the pack verifies": for pack 3 the located check is `Pack::check` -/
example : locatedCheck H fs ⟨"b", ⟨uu 3, 0, 233⟩⟩ = packCheck H id (contentPack H 3) := by
  obtain ⟨-, hb, -⟩ := filePack_located fs H H_length 3 "b" (by decide) rfl (by decide)
  have hs : slice (contentPack H 3) 0 233 = contentPack H 3 := slice_last (contentPack_length H H_length 3)
  have := locatedCheck_content H fs ⟨"b", ⟨uu 3, 0, 233⟩⟩ ⟨uu 3, 0, 233⟩
    (hdr .content 3 233 132).encode (hdr .content 3 233 132) (hdr .content 3 233 132, ch0)
  rw [hb, hs] at this
  exact this (blindOpen_contentPack H H_length 3) (readBlock_framePack_header (hdr_WF _ _ _ _))
    (PackHeader.decode_encode _ (hdr_WF _ _ _ _) ⟨rfl, rfl⟩) rfl (contentPack_open H 3)

end MissingExample

end Jubako
