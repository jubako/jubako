/-
The creation traces of `BasicCreator` (Model/BasicCreatorFs.lean) are disciplined, for every mode,
every number of writes at every stage and every choice of (fresh, distinct) temporary names, and their
renames are the source's publication statements in order (`creationTrace_renames`); and an
error return — the prefix of the run followed by the unlinking of the temporaries still alive — leaves
every final path as the prefix left it and no temporary of the run behind.
-/
import JubakoModel.Model.BasicCreatorFs
import JubakoModel.Lemmas.AtomicFs

namespace Jubako

variable {isTemp : FPath → Bool} {entry : FPath} {oldPaths : List FPath}

theorem mem_createdOf {t : List FsOp} {p : FPath} : p ∈ createdOf t ↔ FsOp.create p ∈ t := by
  simp only [createdOf, List.mem_filterMap]
  constructor
  · rintro ⟨op, hop, h⟩
    cases op <;> cases h
    exact hop
  · intro h
    exact ⟨_, h, rfl⟩

section
variable {old : List FPath}

theorem discStep_rename_ok (s : DiscSt) (src dst : FPath) (h1 : src ∈ s.live) (h2 : isTemp dst = false)
    (h3 : s.entryDone = false) (h4 : dst ∉ s.renamedFinals) :
    discStep isTemp entry old s (.rename src dst) =
      some { s with live := s.live.filter (· != src), renamedFinals := dst :: s.renamedFinals,
                    entryDone := dst == entry } :=
  discStep_rename_iff.mpr ⟨h1, h2, h3, h4, rfl⟩

end

theorem discRun_wr (s : DiscSt) (p : FPath) (toks : List Nat) (h : p ∈ s.live) :
    discRun isTemp entry oldPaths s (wr p toks) = some s := by
  induction toks with
  | nil => rfl
  | cons t ts ih =>
    rw [wr, List.map_cons, discRun_isRun.cons, discStep_write_iff.mpr ⟨h, rfl⟩]
    exact ih

theorem discRun_append_wr {s₀ s : DiscSt} {t : List FsOp} (h : discRun isTemp entry oldPaths s₀ t = some s)
    (p : FPath) (toks : List Nat) (hp : p ∈ s.live) :
    discRun isTemp entry oldPaths s₀ (t ++ wr p toks) = some s := by
  rw [discRun_append, h, Option.bind_some, discRun_wr s p toks hp]

/-- conditions on the names of a run: temporaries are recognisable, fresh and distinct; final names
    are not temporary names and are distinct -/
structure NamesOk (isTemp : FPath → Bool) (old : List FPath) (n : FinNames) : Prop where
  t1 : isTemp n.t1 = true
  t2 : isTemp n.t2 = true
  t3 : isTemp n.t3 = true
  f1 : n.t1 ∉ old
  f2 : n.t2 ∉ old
  f3 : n.t3 ∉ old
  d12 : n.t1 ≠ n.t2
  d13 : n.t1 ≠ n.t3
  d23 : n.t2 ≠ n.t3
  e : isTemp n.entry = false
  c : isTemp n.jbkc = false
  d : isTemp n.jbkd = false
  ec : n.entry ≠ n.jbkc
  ed : n.entry ≠ n.jbkd
  cd : n.jbkc ≠ n.jbkd

/-- `c09_modes`.  `creationTrace` is written `… ++ [op] ++ wr p toks ++ …`, associated to the left, so acceptance
    is extended at the right end (`IsRun.snoc`, `discRun_append_wr`) and the proof term has the shape of the trace;
    the checker states are left to unification. -/
theorem creationTrace_disciplined (m : ConcatMode) (n : FinNames) (w : FinWrites)
    (h : NamesOk isTemp oldPaths n) : Discipline isTemp n.entry oldPaths (creationTrace m n w) = true := by
  rw [discipline_iff]
  have hce : (n.jbkc == n.entry) = false := by simpa using h.ec.symm
  have hde : (n.jbkd == n.entry) = false := by simpa using h.ed.symm
  have h1 : discRun isTemp n.entry oldPaths ⟨[], [], [], false⟩ ([.create n.t1] ++ wr n.t1 w.adds) = some _ :=
    discRun_append_wr (discRun_isRun.snoc (s₀ := ⟨[], [], [], false⟩) (t := []) rfl
      (discStep_create_iff.mpr ⟨h.t1, h.f1, nofun, rfl⟩)) _ _ List.mem_cons_self
  -- not one-file: the content pack's file is published and the second temporary opened
  have h2 := discRun_isRun.snoc (discRun_isRun.snoc (discRun_append_wr h1 _ w.ctail1 List.mem_cons_self)
    (discStep_rename_ok _ n.t1 n.jbkc List.mem_cons_self h.c rfl nofun))
    (discStep_create_iff.mpr ⟨h.t2, h.f2, by simpa using h.d12.symm, rfl⟩)
  cases m with
  | oneFile =>
    exact ⟨_, discRun_isRun.snoc (discRun_append_wr (discRun_append_wr (discRun_append_wr h1 _ _ List.mem_cons_self)
      _ _ List.mem_cons_self) _ _ List.mem_cons_self)
      (discStep_rename_ok _ n.t1 n.entry List.mem_cons_self h.e rfl nofun)⟩
  | twoFiles =>
    exact ⟨_, discRun_isRun.snoc (discRun_append_wr (discRun_append_wr (discRun_append_wr (discRun_append_wr h2 _ _
      List.mem_cons_self) _ _ List.mem_cons_self) _ _ List.mem_cons_self) _ _ List.mem_cons_self)
      (discStep_rename_ok _ n.t2 n.entry List.mem_cons_self h.e hce (by simpa using h.ec))⟩
  | noConcat =>
    exact ⟨_, discRun_isRun.snoc (discRun_append_wr (discRun_isRun.snoc (discRun_isRun.snoc
      (discRun_append_wr h2 _ _ List.mem_cons_self)
      (discStep_rename_ok _ n.t2 n.jbkd List.mem_cons_self h.d hce (by simpa using h.cd.symm)))
      (discStep_create_iff.mpr ⟨h.t3, h.f3, by simpa using ⟨h.d23.symm, h.d13.symm⟩, rfl⟩)) _ _
      List.mem_cons_self)
      (discStep_rename_ok _ n.t3 n.entry List.mem_cons_self h.e hde (by simpa using ⟨h.ed, h.ec⟩))⟩

theorem renameTargets_append (a b : List FsOp) : renameTargets (a ++ b) = renameTargets a ++ renameTargets b := by
  simp [renameTargets]

theorem renameTargets_wr (p : FPath) (toks : List Nat) : renameTargets (wr p toks) = [] := by
  simp [renameTargets, wr]

theorem renameTargets_nil : renameTargets [] = [] := rfl
theorem renameTargets_create (p : FPath) (l : List FsOp) : renameTargets (FsOp.create p :: l) = renameTargets l := rfl
theorem renameTargets_rename (a b : FPath) (l : List FsOp) :
    renameTargets (FsOp.rename a b :: l) = b :: renameTargets l := rfl

/-- the renames of the modelled creation run of a packaging are, in order, the publishing statements of the source
    that the packaging executes (C09: the entry point is published last) -/
theorem creationTrace_renames (m : ConcatMode) (n : FinNames) (w : FinWrites) :
    renameTargets (creationTrace m n w) =
      (finalizePublications.filter (PubStmt.runsIn m)).filterMap (PubStmt.target n) := by
  cases m <;>
    simp [creationTrace, renameTargets_append, renameTargets_wr, renameTargets_create, renameTargets_rename,
      renameTargets_nil, finalizePublications, PubStmt.runsIn] <;> rfl

theorem live_eq_liveTemps {s : DiscSt} {t : List FsOp}
    (h : discRun isTemp entry oldPaths ⟨[], [], [], false⟩ t = some s) : s.live = liveTemps t := by
  apply discRun_isRun.trace_inv h rfl
  intro pre s op s' hl hs
  rw [liveTemps, List.foldl_append, ← liveTemps, ← hl]
  cases op with
  | create p => obtain ⟨_, _, _, rfl⟩ := discStep_create hs; rfl
  | write p tok => obtain ⟨_, rfl⟩ := discStep_write hs; rfl
  | rename src dst => obtain ⟨_, _, _, _, rfl⟩ := discStep_rename hs; rfl
  | unlink p => obtain ⟨_, rfl⟩ := discStep_unlink hs; rfl

theorem get_run_unlinks (fs : FSt) (ps : List FPath) (q : FPath) :
    (fs.run (ps.map FsOp.unlink)).get q = if q ∈ ps then none else fs.get q := by
  induction ps generalizing fs with
  | nil => rfl
  | cons p rest ih =>
    rw [List.map_cons, FSt.run_cons, ih]
    by_cases hq : q = p
    · simp [hq, FSt.apply, FSt.get_remove_same]
    · simp [hq, FSt.apply, FSt.get_remove_other hq]

/-- so both error-return theorems are read off `FsInv` at the point of the error -/
theorem get_run_errorTrace (fs : FSt) {t : List FsOp} {k : Nat} {s : DiscSt}
    (h : discRun isTemp entry oldPaths ⟨[], [], [], false⟩ (t.take k) = some s) (q : FPath) :
    (fs.run (errorTrace t k)).get q = if q ∈ s.live then none else (fs.run (t.take k)).get q := by
  rw [errorTrace, FSt.run_append, get_run_unlinks, live_eq_liveTemps h]

theorem errorTrace_final (fs : FSt) (t : List FsOp) (k : Nat) (d : FPath) (hdt : isTemp d = false)
    (h : Discipline isTemp entry oldPaths t = true) :
    (fs.run (errorTrace t k)).get d = (fs.run (t.take k)).get d := by
  obtain ⟨sk, hsk⟩ := discipline_iff.mp (discipline_take isTemp entry oldPaths t k h)
  have I : FsInv isTemp entry fs _ sk _ := fsInv_of_discRun hsk
  rw [get_run_errorTrace fs hsk, if_neg fun hm => ?_]
  rw [I.created d (I.live d hm).1] at hdt
  cases hdt

theorem errorTrace_no_temps {old : FSt} {t : List FsOp} (k : Nat)
    (hd : Discipline isTemp entry (old.files.map (·.1)) t = true) :
    ∀ p, isTemp p = true → p ∈ createdOf (t.take k) → (old.run (errorTrace t k)).get p = none := by
  intro p _ hc
  obtain ⟨sk, hsk⟩ := discipline_iff.mp (discipline_take _ _ _ t k hd)
  rw [get_run_errorTrace old hsk]
  split
  · rfl
  · next hl => exact (fsInv_of_discRun hsk).dead p (created_of_create sk hsk p (mem_createdOf.mp hc)).1 hl

end Jubako
