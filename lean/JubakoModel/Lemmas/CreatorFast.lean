/-
The creator with reversed lists and cached counters (`FastCreator`, the form the driver runs)
refines `Creator`: it steps through the concretisations (`FastCreator.conc`) of the states of
`Creator`.  Their counters are right by construction, so the step needs no invariant; `FastInv`
holds of every concretisation.
-/
import JubakoModel.Model.CreatorFast
import JubakoModel.Lemmas.Creator

namespace Jubako

def FastCluster.Ok (c : FastCluster) : Prop :=
  c.count = c.revBlobs.length ∧ c.dataSize = (c.revBlobs.map List.length).sum

structure FastInv (s : FastCreator) : Prop where
  n_eq : s.n = s.revInfos.length
  raw_ok : ∀ c, s.raw = some c → c.Ok
  comp_ok : ∀ c, s.comp = some c → c.Ok

def FastCluster.ofCluster (c : Cluster) : FastCluster :=
  ⟨c.idx, c.compressed, c.blobs.reverse, c.blobs.length, c.dataSize⟩

/-- the fast state that represents a `Creator` state: a section of `FastCreator.abs` -/
def FastCreator.conc (s : Creator) : FastCreator :=
  ⟨s.infos.reverse, s.infos.length, s.raw.map .ofCluster, s.comp.map .ofCluster, s.next, s.closed.reverse⟩

theorem FastCluster.toCluster_ofCluster (c : Cluster) : (FastCluster.ofCluster c).toCluster = c := by
  simp [FastCluster.ofCluster, FastCluster.toCluster]

theorem FastCluster.isFull_ofCluster (c : Cluster) (size : Nat) :
    (FastCluster.ofCluster c).isFull size = c.isFull size := by
  unfold Cluster.isFull FastCluster.isFull FastCluster.ofCluster
  cases c.blobs <;> simp

theorem FastCreator.abs_conc (s : Creator) : (FastCreator.conc s).abs = s := by
  cases s
  simp [FastCreator.conc, FastCreator.abs, Option.map_map, Function.comp_def,
    FastCluster.toCluster_ofCluster]

theorem fastInv_conc (s : Creator) : FastInv (FastCreator.conc s) := by
  constructor <;> simp [FastCreator.conc, FastCluster.Ok, FastCluster.ofCluster, Cluster.dataSize]

theorem conc_add (s : Creator) (it : Item) :
    (FastCreator.conc s).add it = FastCreator.conc (s.add it).1 := by
  unfold FastCreator.add Creator.add
  cases hcomp : it.comp
  · cases hs : s.raw with
    | none => simp [FastCreator.conc, hs, FastCluster.ofCluster, FastCluster.fresh, Cluster.dataSize]
    | some c =>
      by_cases hf : c.isFull it.data.length = true
      · simp [FastCreator.conc, hs, hf, FastCluster.isFull_ofCluster, FastCluster.toCluster_ofCluster]
        simp [FastCluster.ofCluster, FastCluster.fresh, Cluster.dataSize]
      · simp [FastCreator.conc, hs, hf, FastCluster.isFull_ofCluster]
        simp [FastCluster.ofCluster, FastCluster.push, Cluster.dataSize]
  · cases hs : s.comp with
    | none => simp [FastCreator.conc, hs, FastCluster.ofCluster, FastCluster.fresh, Cluster.dataSize]
    | some c =>
      by_cases hf : c.isFull it.data.length = true
      · simp [FastCreator.conc, hs, hf, FastCluster.isFull_ofCluster, FastCluster.toCluster_ofCluster]
        simp [FastCluster.ofCluster, FastCluster.fresh, Cluster.dataSize]
      · simp [FastCreator.conc, hs, hf, FastCluster.isFull_ofCluster]
        simp [FastCluster.ofCluster, FastCluster.push, Cluster.dataSize]

theorem conc_addAll (items : List Item) (s : Creator) :
    items.foldl FastCreator.add (FastCreator.conc s) = FastCreator.conc (s.addAll items) := by
  induction items generalizing s with
  | nil => rfl
  | cons it items ih => rw [List.foldl_cons, conc_add, ih, addAll_cons]

theorem fast_addAll_conc (items : List Item) :
    FastCreator.addAll items = FastCreator.conc (Creator.init.addAll items) :=
  conc_addAll items Creator.init

theorem fastInv_addAll (items : List Item) : FastInv (FastCreator.addAll items) :=
  fast_addAll_conc items ▸ fastInv_conc _

theorem fast_addAll_abs (items : List Item) :
    (FastCreator.addAll items).abs = Creator.init.addAll items := by
  rw [fast_addAll_conc, FastCreator.abs_conc]

theorem fast_finalize_abs (s : FastCreator) : s.finalize = s.abs.finalize := by
  unfold FastCreator.finalize Creator.finalize FastCreator.abs
  cases h1 : s.raw <;> cases h2 : s.comp <;> simp [FastCluster.toCluster]

theorem fast_finalize_eq (items : List Item) :
    (FastCreator.addAll items).finalize = (Creator.init.addAll items).finalize := by
  rw [fast_finalize_abs, fast_addAll_abs]

end Jubako
