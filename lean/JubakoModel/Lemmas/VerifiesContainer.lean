/-
C04 for the containers: a file that holds packs that verify (`Holds`) passes `ContainerPack::check`; a
one-file container whose entry file holds them opens, to a view given in terms of the packs, and passes
`Container::check`; so do the containers assembled, in any order, from packs of the three writers
(`CreatedPack`).
The hash `H` is an arbitrary function with 32-byte output.
-/
import JubakoModel.Lemmas.VerifiesPacks
import JubakoModel.Lemmas.Missing

namespace Jubako

theorem packsCheck_all (H : Bytes → Bytes) (f : Bytes) (packs : List PackAt)
    (h : ∀ p ∈ packs, PackVerifies H (slice f p.origin p.size)) :
    packsCheck H f packs = .ok true := by
  refine (foldlM_all_true_iff _ _).2 fun p hp => ?_
  obtain ⟨hd, h1, -, h3⟩ := h p hp
  obtain ⟨b, hr, hdec⟩ := Outcome.bind_eq_ok.1 h1
  simp only [hr, hdec, Outcome.ok_bind]
  exact h3

theorem packsCheck_one (H : Bytes → Bytes) (f : Bytes) (p : PackAt) (h : PackHeader)
    (hh : packHeaderOf (slice f p.origin p.size) = .ok h) :
    packsCheck H f [p] = kindOpenCheck H h.kind (slice f p.origin p.size) := by
  obtain ⟨b, hr, hdec⟩ := Outcome.bind_eq_ok.1 hh
  unfold packsCheck
  simp only [List.foldlM_cons, List.foldlM_nil, Bool.not_true, Bool.false_eq_true, if_false, hr, hdec,
    Outcome.ok_bind]
  exact Outcome.bind_ok_right _

theorem locatedCheck_single (H : Bytes → Bytes) (fs : FS) (l : Located) (h : PackHeader)
    (hh : packHeaderOf (bytesOfLocated fs l) = .ok h) (hk : h.kind ≠ .container)
    (hs : h.packSize = (bytesOfLocated fs l).length) :
    locatedCheck H fs l = kindOpenCheck H h.kind (bytesOfLocated fs l) := by
  unfold locatedCheck
  rw [blindOpen_single _ h hh hk hs, Outcome.ok_bind, packsCheck_one H _ _ h (by rwa [slice_all]), slice_all]

/-- When the located reader holds exactly one pack, of kind content, that opens, the check
    `Container::check` runs on it is `Pack::check` of its bytes.  (The content case of
    `locatedCheck_single`, Lemmas/VerifiesContainer.lean, which says it for every kind.) -/
theorem locatedCheck_content (H : Bytes → Bytes) (fs : FS) (l : Located) (p : PackAt)
    (hd : Bytes) (h : PackHeader) (x : PackHeader × ContentHeader)
    (hb : blindOpen (bytesOfLocated fs l) = .ok [p])
    (hr : readBlock (slice (bytesOfLocated fs l) p.origin p.size) 0 60 = .ok hd)
    (hdec : PackHeader.decode hd = .ok h) (hk : h.kind = .content)
    (hopen : contentOpen (slice (bytesOfLocated fs l) p.origin p.size) = .ok x) :
    locatedCheck H fs l = packCheck H id (slice (bytesOfLocated fs l) p.origin p.size) := by
  unfold locatedCheck
  rw [hb, Outcome.ok_bind, packsCheck_one H _ p h (by rw [packHeaderOf, hr, Outcome.ok_bind, hdec]), hk]
  show contentOpenCheck H _ = _
  rw [contentOpenCheck, hopen, Outcome.ok_bind]

theorem locatedCheck_of_verifies (H : Bytes → Bytes) (fs : FS) (l : Located)
    (hv : PackVerifies H (bytesOfLocated fs l)) : locatedCheck H fs l = .ok true := by
  obtain ⟨h, h1, h2, h3⟩ := hv
  rw [locatedCheck_single H fs l h h1 (kindOpenCheck_true_inv H _ _ h3).1 h2, h3]

theorem PackVerifiesAs.isManifest {H : Bytes → Bytes} {k : PackKind} {b : Bytes} (v : PackVerifiesAs H k b) :
    isManifestPack b = decide (k = .manifest) := by
  obtain ⟨h, h1, rfl, -, -⟩ := v
  exact isManifestPack_of_header b h h1

/-- What `open_as_container_pack` finds in `f`: the packs `packs` (uuid, bytes), in order, at the regions
    `ats`.  A written container pack holds the packs put in (`Holds.written`); the open, check and lookup
    theorems need no more of the entry file. -/
structure Holds (f : Bytes) (ats : List PackAt) (packs : List (Bytes × Bytes)) : Prop where
  opens : blindOpen f = .ok ats
  regions : ats.map (fun q => (q.uuid, slice f q.origin q.size)) = packs

theorem Holds.written (uuid freeData : Bytes) (packs : List (Bytes × Bytes))
    (hu : uuid.length = 16) (hf : freeData.length = 24) (hpu : ∀ p ∈ packs, p.1.length = 16)
    (hn : packs.length < 2 ^ 16) (hl : (containerPackWrite uuid freeData packs).length < 2 ^ 64) :
    Holds (containerPackWrite uuid freeData packs) (packAts packs) packs :=
  ⟨blindOpen_write_ok uuid freeData packs hu hf hpu hn hl, packAts_regions uuid freeData packs hu hf⟩

namespace Holds

variable {f : Bytes} {ats : List PackAt} {packs : List (Bytes × Bytes)} (hold : Holds f ats packs)
include hold

/-- on duplicate uuids see `lookupPack_concatLayout` -/
theorem find (u : Bytes) :
    (ats.find? (fun q => q.uuid == u)).map (fun q => slice f q.origin q.size) = packs.lookup u := by
  rw [find?_map_eq_lookup, hold.regions]

theorem find?_bytes (P : Bytes → Bool) :
    (ats.find? (fun q => P (slice f q.origin q.size))).map (fun q => slice f q.origin q.size) =
      (packs.find? (fun p => P p.2)).map (·.2) := by
  rw [← hold.regions, List.find?_map, Option.map_map]
  rfl

theorem packsCheck_true (H : Bytes → Bytes) (hver : ∀ p ∈ packs, PackVerifies H p.2) :
    packsCheck H f ats = .ok true := by
  refine packsCheck_all H f ats fun q hq => hver (q.uuid, slice f q.origin q.size) ?_
  rw [← hold.regions]
  exact List.mem_map_of_mem hq

variable {fs : FS} {entry : String} (hfile : FS.get fs entry = some f)
include hfile

theorem locate_held (u : Bytes) (loc : String) {b : Bytes} (hb : packs.lookup u = some b) :
    ∃ q, locate fs entry ats u loc = .ok (some ⟨entry, q⟩) ∧ bytesOfLocated fs ⟨entry, q⟩ = b := by
  obtain ⟨q, hq, hqb⟩ := Option.map_eq_some_iff.mp ((hold.find u).trans hb)
  refine ⟨q, locate_enclosed fs _ _ _ _ q hq, ?_⟩
  unfold bytesOfLocated
  simp only [hfile]
  exact hqb

omit hfile in
theorem locate_not_held (fs : FS) (entry : String) (u : Bytes) (loc : String) (hb : packs.lookup u = none) :
    locate fs entry ats u loc = fsLocate fs u loc :=
  locate_fs fs _ _ _ _ (Option.map_eq_none_iff.mp ((hold.find u).trans hb))

theorem containerOpen_ok (um m : Bytes) (hm : packs.find? (fun p => isManifestPack p.2) = some (um, m))
    (x : PackHeader × ManifestHeader × List PackInfo) (hopen : manifestOpen m = .ok x)
    (di : PackInfo) (hlast : (x.2.2.filter (fun i => i.kind = .directory)).getLast? = some di)
    (d : Bytes) (hdir : packs.lookup di.uuid = some d) :
    containerOpen fs entry = .ok ⟨entry, ats, m, x.2.2, d⟩ := by
  obtain ⟨mp, hfind, hms⟩ := Option.map_eq_some_iff.mp
    ((hold.find?_bytes isManifestPack).trans (congrArg (Option.map (·.2)) hm))
  obtain ⟨q, hloc, hbytes⟩ := hold.locate_held hfile di.uuid (locationString di.location) hdir
  rw [containerOpen_eq, hfile]
  simp only
  rw [hold.opens, Outcome.ok_bind, hfind]
  simp only
  rw [hms, hopen, Outcome.ok_bind, openTail, hlast]
  simp only
  rw [hloc, Outcome.ok_bind]
  simp only
  rw [hbytes]

/-- `hloc`: a pack recorded with an empty location is not looked for, and skipped by the check -/
theorem containerCheck_true (H : Bytes → Bytes) (hver : ∀ p ∈ packs, PackVerifies H p.2)
    {m d : Bytes} {infos : List PackInfo} (hm : manifestCheck H m = .ok true)
    (hd : packCheck H id d = .ok true)
    (hloc : ∀ i ∈ infos, i.kind ≠ .directory → (packs.lookup i.uuid).isSome ∨ i.location = []) :
    containerCheck H fs ⟨entry, ats, m, infos, d⟩ = .ok true := by
  refine missing_check_present_ok H fs _ hm hd fun i hi => ?_
  obtain ⟨hi, hk⟩ := List.mem_filter.mp hi
  cases hb : packs.lookup i.uuid with
  | some b =>
    obtain ⟨q, h1, h2⟩ := hold.locate_held hfile i.uuid (locationString i.location) hb
    have hmem : (i.uuid, b) ∈ packs := by
      obtain ⟨l₁, l₂, rfl, -⟩ := List.lookup_eq_some_iff.mp hb
      simp
    exact Or.inr ⟨_, h1, locatedCheck_of_verifies H fs _ (h2 ▸ hver _ hmem)⟩
  | none =>
    have := (hloc i hi (by simpa using hk)).resolve_left (by rw [hb]; nofun)
    exact Or.inl (by
      show locate fs entry ats i.uuid _ = _
      rw [hold.locate_not_held fs entry _ _ hb, this]
      rfl)

end Holds

theorem located_single (H : Bytes → Bytes) (fs : FS) (entry : String) (packs : List PackAt)
    (loc : String) (b : Bytes) (h : PackHeader)
    (hne : packs.find? (fun q => q.uuid == h.uuid) = none) (hloc : loc ≠ "")
    (hget : FS.get fs loc = some b) (hh : packHeaderOf b = .ok h) (hk : h.kind ≠ .container)
    (hs : h.packSize = b.length) :
    locate fs entry packs h.uuid loc = .ok (some ⟨loc, ⟨h.uuid, 0, h.packSize⟩⟩) ∧
    bytesOfLocated fs ⟨loc, ⟨h.uuid, 0, h.packSize⟩⟩ = b ∧
    locatedCheck H fs ⟨loc, ⟨h.uuid, 0, h.packSize⟩⟩ = kindOpenCheck H h.kind b := by
  have hb : bytesOfLocated fs ⟨loc, ⟨h.uuid, 0, h.packSize⟩⟩ = b := by
    unfold bytesOfLocated
    simp only [hget, hs, slice_all]
  refine ⟨?_, hb, ?_⟩
  · rw [locate_fs fs _ _ _ _ hne, fsLocate, if_neg hloc, hget]
    simp only
    rw [hs, blindOpen_single b h hh hk hs, Outcome.ok_bind]
    simp
  · rw [locatedCheck_single H fs _ h (hb ▸ hh) hk (hb ▸ hs), hb]

def createdPacks (H : Bytes → Bytes) (cps : List CreatedPack) : List (Bytes × Bytes) :=
  cps.map (fun p => (p.uuid, p.bytes H))

def createdContainer (H : Bytes → Bytes) (uuid freeData : Bytes) (cps : List CreatedPack) : Bytes :=
  containerPackWrite uuid freeData (createdPacks H cps)

structure ContainerLimits (H : Bytes → Bytes) (uuid freeData : Bytes) (cps : List CreatedPack) :
    Prop where
  uuidLen : uuid.length = 16
  freeDataLen : freeData.length = 24
  packs : ∀ p ∈ cps, p.Limits H
  count : cps.length < 2 ^ 16
  fileSize : (createdContainer H uuid freeData cps).length < 2 ^ 64

section Container

variable {H : Bytes → Bytes} {uuid freeData : Bytes} {cps : List CreatedPack}

theorem createdPacks_uuid_length (hl : ∀ p ∈ cps, p.Limits H) :
    ∀ p ∈ createdPacks H cps, p.1.length = 16 := by
  intro p hp
  obtain ⟨q, hq, rfl⟩ := List.mem_map.mp hp
  exact q.uuid_length H (hl q hq)

theorem ContainerLimits.holds (L : ContainerLimits H uuid freeData cps) :
    Holds (createdContainer H uuid freeData cps) (packAts (createdPacks H cps)) (createdPacks H cps) :=
  Holds.written uuid freeData _ L.uuidLen L.freeDataLen (createdPacks_uuid_length L.packs)
    (by rw [createdPacks, List.length_map]; exact L.count) L.fileSize

theorem createdPacks_verify (hl : ∀ p ∈ cps, p.Limits H)
    (hH : ∀ x, (H x).length = 32) : ∀ p ∈ createdPacks H cps, PackVerifies H p.2 := by
  intro p hp
  obtain ⟨q, hq, rfl⟩ := List.mem_map.mp hp
  exact q.verifies H (hl q hq) hH

theorem created_container_pack_verifies (L : ContainerLimits H uuid freeData cps)
    (hH : ∀ x, (H x).length = 32) :
    blindOpen (createdContainer H uuid freeData cps) = .ok (packAts (createdPacks H cps)) ∧
    packsCheck H (createdContainer H uuid freeData cps) (packAts (createdPacks H cps)) = .ok true :=
  ⟨L.holds.opens, L.holds.packsCheck_true H (createdPacks_verify L.packs hH)⟩

theorem createdPacks_lookup (u : Bytes) (h : u ∈ cps.map (·.uuid)) :
    ∃ p ∈ cps, p.uuid = u ∧ (createdPacks H cps).lookup u = some (p.bytes H) := by
  induction cps with
  | nil => cases h
  | cons q qs ih =>
    rw [createdPacks, List.map_cons, List.lookup_cons]
    by_cases hq : q.uuid = u
    · exact ⟨q, List.mem_cons_self, hq, by rw [hq, beq_self_eq_true]⟩
    · obtain ⟨p, hp, h1, h2⟩ := ih ((List.mem_cons.mp h).resolve_left (Ne.symm hq))
      exact ⟨p, List.mem_cons_of_mem _ hp, h1, by rw [beq_false_of_ne (Ne.symm hq)]; exact h2⟩

/-- **A created one-file container opens and passes `Container::check`** — from the writers'
    inputs only.  The entry file is a container pack assembled, in any order, from created packs
    among which exactly one manifest `manifest mv mu mfd cb store infos`; its infos describe the
    file:
    * `hloc` — every listed pack is in the file (by uuid) or has an empty recorded location;
    * `hdiren` — the packs listed as *directory* are in the file;
    * `hdirkind` — … and are not stored under the uuid of the manifest pack.
    Then `Container::new` succeeds, returns the writer's pack infos, and `Container::check`
    answers `true`. -/
theorem created_container_opens_and_verifies (L : ContainerLimits H uuid freeData cps)
    (hH : ∀ x, (H x).length = 32) (fs : FS) (entry : String)
    (hfile : FS.get fs entry = some (createdContainer H uuid freeData cps))
    (mv mu mfd cb : Bytes) (store : VStore) (infos : List PackInfo)
    (hmem : CreatedPack.manifest mv mu mfd cb store infos ∈ cps)
    (hone : ∀ p ∈ cps, p.kind = .manifest → p = .manifest mv mu mfd cb store infos)
    (hloc : ∀ i ∈ infos, i.uuid ∈ cps.map (·.uuid) ∨ i.location = [])
    (hdiren : ∀ i ∈ infos, i.kind = .directory → i.uuid ∈ cps.map (·.uuid))
    (hdirkind : ∀ i ∈ infos, i.kind = .directory → i.uuid ≠ mu) :
    ∃ c, containerOpen fs entry = .ok c ∧ c.infos = infos ∧
      c.manifest = manifestWrite H mv mu mfd cb store infos ∧
      containerCheck H fs c = .ok true := by
  have hML := L.packs _ hmem
  have hV := fun p hp => CreatedPack.verifiesAs H p (L.packs p hp) hH
  -- the first manifest of the file is the manifest written
  have hfirst : (createdPacks H cps).find? (fun p => isManifestPack p.2) =
      some (mu, manifestWrite H mv mu mfd cb store infos) := by
    rw [createdPacks, List.find?_map]
    cases hf : cps.find? ((fun p : Bytes × Bytes => isManifestPack p.2) ∘ fun p => (p.uuid, p.bytes H)) with
    | none =>
      have := List.find?_eq_none.mp hf _ hmem
      rw [Function.comp, (hV _ hmem).isManifest] at this
      exact absurd (decide_eq_true rfl) this
    | some p =>
      have hp := List.mem_of_find?_eq_some hf
      have := List.find?_some hf
      rw [Function.comp, (hV p hp).isManifest] at this
      rw [hone p hp (of_decide_eq_true this)]
      rfl
  obtain ⟨di, hlast⟩ : ∃ di, (infos.filter (fun i => i.kind = .directory)).getLast? = some di := by
    obtain ⟨i, hi, hik⟩ := List.any_eq_true.mp hML.2
    exact ⟨_, List.getLast?_eq_some_getLast (List.ne_nil_of_mem (List.mem_filter.mpr ⟨hi, hik⟩))⟩
  have hdi : di ∈ infos ∧ di.kind = .directory := by
    have := List.mem_filter.mp (List.mem_of_getLast? hlast)
    exact ⟨this.1, by simpa using this.2⟩
  obtain ⟨pd, hpd, hpdu, hdl⟩ := createdPacks_lookup (H := H) di.uuid (hdiren di hdi.1 hdi.2)
  refine ⟨_, L.holds.containerOpen_ok hfile _ _ hfirst _ (manifestOpen_manifestWrite hML.1 hML.2) di hlast _ hdl,
    rfl, rfl, ?_⟩
  refine L.holds.containerCheck_true hfile H (createdPacks_verify L.packs hH) (hV _ hmem).manifest_check
    ((hV pd hpd).check fun hk => ?_) fun i hi _ => (hloc i hi).imp_left fun h => ?_
  · rw [hone pd hpd hk] at hpdu
    exact hdirkind di hdi.1 hdi.2 hpdu.symm
  · obtain ⟨p, -, -, hl⟩ := createdPacks_lookup (H := H) i.uuid h
    rw [hl]; rfl

end Container

end Jubako
