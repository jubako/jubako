/-
The content-pack creator as a state machine: the invariant every insertion keeps and, after
`finalize`, that each recorded address resolves to its own bytes and class in the clusters handed
over, in any order.
-/
import JubakoModel.Model.ContentSpec
import JubakoModel.Lemmas.Slice

namespace Jubako

theorem findCluster_of_mem {cs : List Cluster} (hn : (cs.map (·.idx)).Nodup) {c : Cluster}
    (hc : c ∈ cs) : findCluster cs c.idx = some c := by
  obtain ⟨l1, l2, rfl⟩ := List.append_of_mem hc
  rw [List.map_append, List.map_cons, List.nodup_append] at hn
  exact List.find?_eq_some_iff_append.2 ⟨by simp, l1, l2, rfl, fun a ha => by
    simpa using hn.2.2 a.idx (List.mem_map_of_mem ha) c.idx (List.mem_cons_self ..)⟩

theorem findCluster_eq_some_iff {cs : List Cluster} (hn : (cs.map (·.idx)).Nodup) {idx : Nat}
    {c : Cluster} : findCluster cs idx = some c ↔ c ∈ cs ∧ c.idx = idx := by
  constructor
  · intro h
    unfold findCluster at h
    have h1 := List.mem_of_find?_eq_some h
    have h2 := List.find?_some h
    exact ⟨h1, by simpa using h2⟩
  · rintro ⟨hm, rfl⟩
    exact findCluster_of_mem hn hm

theorem findCluster_perm {cs cs' : List Cluster} (hp : cs.Perm cs')
    (hn : (cs.map (·.idx)).Nodup) (idx : Nat) : findCluster cs' idx = findCluster cs idx := by
  have hn' : (cs'.map (·.idx)).Nodup := (hp.map _).nodup_iff.1 hn
  apply Option.ext
  intro c
  rw [findCluster_eq_some_iff hn', findCluster_eq_some_iff hn, hp.mem_iff]

theorem resolve_perm {cs cs' : List Cluster} (hp : cs.Perm cs')
    (hn : (cs.map (·.idx)).Nodup) (info : Nat × Nat) : resolve cs' info = resolve cs info := by
  unfold resolve
  rw [findCluster_perm hp hn]

theorem resolve_of_mem {cs : List Cluster} (hn : (cs.map (·.idx)).Nodup) {c : Cluster}
    (hc : c ∈ cs) {info : Nat × Nat} (hi : c.idx = info.1) {d : Bytes} {b : Bool}
    (hb : c.blobs[info.2]? = some d) (hk : c.compressed = b) : resolve cs info = some (d, b) := by
  unfold resolve
  rw [← hi, findCluster_of_mem hn hc]
  simp [hb, hk]

theorem mem_allClusters {s : Creator} {c : Cluster} :
    c ∈ s.allClusters ↔ c ∈ s.closed ∨ s.raw = some c ∨ s.comp = some c := by
  simp [Creator.allClusters]

/-- The blob is pushed onto `c0`: the open cluster of the item's kind if it is not full, otherwise a
    fresh empty one with the next id (the full one is closed); `rest` are the other clusters. -/
theorem add_step (s : Creator) (it : Item)
    (hr : ∀ c, s.raw = some c → c.compressed = false)
    (hc : ∀ c, s.comp = some c → c.compressed = true) :
    ∃ c0 rest, c0.compressed = it.comp ∧
      (s.add it).1.infos = s.infos ++ [(c0.idx, c0.blobs.length)] ∧
      (s.add it).1.allClusters.Perm ({ c0 with blobs := c0.blobs ++ [it.data] } :: rest) ∧
      (∀ c, (s.add it).1.raw = some c → c.compressed = false) ∧
      (∀ c, (s.add it).1.comp = some c → c.compressed = true) ∧
      ((s.allClusters.Perm (c0 :: rest) ∧ c0.isFull it.data.length = false ∧
          (s.add it).1.next = s.next) ∨
       (s.allClusters = rest ∧ c0 = ⟨s.next, it.comp, []⟩ ∧ (s.add it).1.next = s.next + 1)) := by
  unfold Creator.add
  cases hcomp : it.comp
  · cases hs : s.raw with
    | none =>
      refine ⟨⟨s.next, false, []⟩, s.allClusters, ?_⟩
      simpa [Creator.allClusters, hs] using hc
    | some c =>
      by_cases hf : c.isFull it.data.length = true
      · refine ⟨⟨s.next, false, []⟩, s.allClusters, ?_⟩
        simp [Creator.allClusters, hs, hf]
        exact ⟨by simpa using List.perm_middle (l₁ := s.closed ++ [c]), hc⟩
      · refine ⟨c, s.closed ++ s.comp.toList, ?_⟩
        simpa [Creator.allClusters, hs, hf] using ⟨hr c hs, hc⟩
  · cases hs : s.comp with
    | none =>
      refine ⟨⟨s.next, true, []⟩, s.allClusters, ?_⟩
      simp [Creator.allClusters, hs]
      exact ⟨by simpa using List.perm_middle (l₁ := s.closed ++ s.raw.toList) (l₂ := []), hr⟩
    | some c =>
      by_cases hf : c.isFull it.data.length = true
      · refine ⟨⟨s.next, true, []⟩, s.allClusters, ?_⟩
        simp [Creator.allClusters, hs, hf]
        -- the full cluster moves from the end (the compressed slot) in front of the raw one
        refine ⟨?_, hr⟩
        simpa using (List.perm_append_singleton _ (s.closed ++ c :: s.raw.toList)).trans
          (.cons _ (.append_left _ (List.perm_append_singleton c _).symm))
      · refine ⟨c, s.closed ++ s.raw.toList, ?_⟩
        simp [Creator.allClusters, hs, hf]
        exact ⟨hc c hs, by simpa using List.perm_middle (l₁ := s.closed ++ s.raw.toList) (l₂ := []), hr,
          hc c hs, by simpa using List.perm_middle (l₁ := s.closed ++ s.raw.toList) (l₂ := [])⟩

/-- from the last conjunct of `add_step` (`l` is `s.allClusters`; `p`, `q` are its parts not needed here): the
    clusters before the step are `rest`, and `c0` if it was open already -/
theorem add_step_before {l rest : List Cluster} {c0 : Cluster} {p q : Prop}
    (h : l.Perm (c0 :: rest) ∧ p ∨ l = rest ∧ q) :
    (∀ x ∈ rest, x ∈ l) ∧ (∀ x ∈ l, x = c0 ∨ x ∈ rest) := by
  rcases h with ⟨hp, -⟩ | ⟨rfl, -⟩
  · exact ⟨fun x hx => hp.mem_iff.2 (List.mem_cons_of_mem _ hx),
      fun x hx => List.mem_cons.1 (hp.mem_iff.1 hx)⟩
  · exact ⟨fun _ hx => hx, fun _ hx => Or.inr hx⟩

/-- `located` is the order-free form of "every recorded address resolves to its item": with
    `ids_nodup` it gives `CreatorInv.resolves`. -/
structure CreatorInv (s : Creator) (items : List Item) : Prop where
  infos_len : s.infos.length = items.length
  located : ∀ i, i < items.length → ∃ c ∈ s.allClusters,
    c.idx = (s.infos.getD i (0,0)).1 ∧
    c.blobs[(s.infos.getD i (0,0)).2]? = some (items.getD i ⟨[], false⟩).data ∧
    c.compressed = (items.getD i ⟨[], false⟩).comp
  ids_lt : ∀ c ∈ s.allClusters, c.idx < s.next
  ids_nodup : (s.allClusters.map (·.idx)).Nodup
  count : s.allClusters.length = s.next
  nonempty : ∀ c ∈ s.allClusters, 1 ≤ c.blobs.length ∧ c.blobs.length ≤ Consts.maxBlobsPerCluster
  raw_kind : ∀ c, s.raw = some c → c.compressed = false
  comp_kind : ∀ c, s.comp = some c → c.compressed = true
  blob_lt : ∀ info ∈ s.infos, info.2 < Consts.maxBlobsPerCluster

theorem CreatorInv.resolves {s : Creator} {items : List Item} (h : CreatorInv s items) :
    ∀ i (_ : i < items.length), resolve s.allClusters (s.infos.getD i (0,0)) =
      some ((items.getD i ⟨[], false⟩).data, (items.getD i ⟨[], false⟩).comp) := by
  intro i hi
  obtain ⟨c, hc, h1, h2, h3⟩ := h.located i hi
  exact resolve_of_mem h.ids_nodup hc h1 h2 h3

/-- `located` with `getElem` for the `getD` of `c01_roundtrip_structure`'s statement: the form the file level wants -/
theorem CreatorInv.located_getElem {s : Creator} {items : List Item} (h : CreatorInv s items)
    {i : Nat} (hi : i < items.length) :
    ∃ c ∈ s.allClusters, ∃ k, s.infos[i]? = some (c.idx, k) ∧
      c.blobs[k]? = some (items[i]).data ∧ c.compressed = (items[i]).comp := by
  obtain ⟨c, hc, h1, h2, h3⟩ := h.located i hi
  have hi' : i < s.infos.length := h.infos_len ▸ hi
  rw [getD_of_lt items i _ hi] at h2 h3
  rw [getD_of_lt s.infos i _ hi'] at h1 h2
  exact ⟨c, hc, s.infos[i].2, by rw [List.getElem?_eq_getElem hi', h1], h2, h3⟩

theorem creatorInv_init : CreatorInv Creator.init [] := by
  constructor <;> simp [Creator.init, Creator.allClusters]

theorem creatorInv_add (s : Creator) (items : List Item) (it : Item) (h : CreatorInv s items) :
    CreatorInv (s.add it).1 (items ++ [it]) := by
  obtain ⟨c0, rest, hkind, hinfos, hperm, hrk, hck, hcase⟩ := add_step s it h.raw_kind h.comp_kind
  have hlen := h.infos_len
  -- what the two cases have in common: the clusters of `s` are `rest`, and `c0` when it was open
  -- already; `c0` has room for one more blob, and its id is its own and below the new `next`
  obtain ⟨hrest, hold⟩ := add_step_before hcase
  have hroom : c0.blobs.length < Consts.maxBlobsPerCluster := by
    rcases hcase with ⟨hp, hnf, -⟩ | ⟨-, rfl, -⟩
    · have := (h.nonempty c0 (hp.mem_iff.2 (List.mem_cons_self ..))).2
      unfold Cluster.isFull at hnf
      simp only [Bool.or_eq_false_iff, beq_eq_false_iff_ne] at hnf
      omega
    · simp [Consts.maxBlobsPerCluster]
  have hids : (c0.idx :: rest.map (·.idx)).Nodup ∧ c0.idx < (s.add it).1.next ∧
      s.next ≤ (s.add it).1.next ∧ rest.length + 1 = (s.add it).1.next := by
    rcases hcase with ⟨hp, -, hn⟩ | ⟨rfl, rfl, hn⟩
    · have := h.ids_lt c0 (hp.mem_iff.2 (List.mem_cons_self ..))
      refine ⟨by simpa using (hp.map (·.idx)).nodup_iff.1 h.ids_nodup, by omega, by omega, ?_⟩
      rw [hn, ← h.count, hp.length_eq]; rfl
    · refine ⟨List.nodup_cons.2 ⟨?_, h.ids_nodup⟩, by simp [hn], by omega, by rw [hn, h.count]⟩
      intro hm
      obtain ⟨x, hx, hxi⟩ := List.mem_map.1 hm
      have := h.ids_lt x hx
      simp only at hxi; omega
  have hmem := fun x => (hperm.mem_iff (a := x)).trans List.mem_cons
  refine ⟨by simp [hinfos, hlen], ?_, ?_, ?_, ?_, ?_, hrk, hck, ?_⟩
  · intro i hi
    rw [hinfos]
    by_cases hlt : i < items.length
    · obtain ⟨d, hd, h1, h2, h3⟩ := h.located i hlt
      rw [getD_append_lt _ _ _ _ (by omega), getD_append_lt _ _ _ _ hlt]
      rcases hold d hd with rfl | hd
      · refine ⟨_, (hmem _).2 (Or.inl rfl), h1, ?_, h3⟩
        show (d.blobs ++ [it.data])[_]? = _
        rw [List.getElem?_append_left (List.getElem?_eq_some_iff.1 h2).1]
        exact h2
      · exact ⟨d, (hmem d).2 (Or.inr hd), h1, h2, h3⟩
    · have hi' : i = items.length := by simp at hi; omega
      subst hi'
      refine ⟨_, (hmem _).2 (Or.inl rfl), ?_⟩
      rw [getD_concat_length _ _ _ _ hlen.symm, getD_concat_length _ _ _ _ rfl]
      simp [hkind]
  · intro x hx
    rcases (hmem x).1 hx with rfl | hx
    · exact hids.2.1
    · have := h.ids_lt x (hrest x hx); omega
  · exact (hperm.map (·.idx)).nodup_iff.2 (by simpa using hids.1)
  · rw [hperm.length_eq]; exact hids.2.2.2
  · intro x hx
    rcases (hmem x).1 hx with rfl | hx
    · simp; omega
    · exact h.nonempty x (hrest x hx)
  · intro info hinfo
    rw [hinfos] at hinfo
    rcases List.mem_append.1 hinfo with hi | hi
    · exact h.blob_lt info hi
    · simp at hi; subst hi; exact hroom

def totalSize (items : List Item) : Nat := (items.map (fun it => it.data.length)).sum

theorem totalSize_append (a b : List Item) : totalSize (a ++ b) = totalSize a + totalSize b := by
  simp [totalSize]

/-- what the file level needs besides `CreatorInv`: `creator_packWF` makes `PackWF.comp_byte` and `.data_lt` of it -/
structure CreatorSizeInv (s : Creator) (items : List Item) : Prop where
  comp_origin : ∀ c ∈ s.allClusters, c.compressed = true → ∃ it ∈ items, it.comp = true
  data_le : ∀ c ∈ s.allClusters, c.dataSize ≤ totalSize items

theorem creatorSizeInv_init : CreatorSizeInv Creator.init [] := by
  constructor <;> simp [Creator.init, Creator.allClusters]

theorem creatorSizeInv_add (s : Creator) (items : List Item) (it : Item) (h : CreatorInv s items)
    (h2 : CreatorSizeInv s items) : CreatorSizeInv (s.add it).1 (items ++ [it]) := by
  obtain ⟨c0, rest, hkind, -, hperm, -, -, hcase⟩ := add_step s it h.raw_kind h.comp_kind
  have hts : totalSize (items ++ [it]) = totalSize items + it.data.length := by
    rw [totalSize_append]
    simp [totalSize]
  obtain ⟨hrest, -⟩ := add_step_before hcase
  have hc0 : c0.dataSize ≤ totalSize items := by
    rcases hcase with ⟨hp, -⟩ | ⟨-, rfl, -⟩
    · exact h2.data_le c0 (hp.mem_iff.2 (List.mem_cons_self ..))
    · simp [Cluster.dataSize]
  have hmem := fun x => (hperm.mem_iff (a := x)).trans List.mem_cons
  constructor
  · intro x hx hxc
    rcases (hmem x).1 hx with rfl | hx
    · exact ⟨it, by simp, hkind ▸ hxc⟩
    · obtain ⟨j, hj, hjc⟩ := h2.comp_origin x (hrest x hx) hxc
      exact ⟨j, List.mem_append_left _ hj, hjc⟩
  · intro x hx
    rw [hts]
    rcases (hmem x).1 hx with rfl | hx
    · simp [Cluster.dataSize] at hc0 ⊢; omega
    · have := h2.data_le x (hrest x hx); omega

theorem addAll_nil (s : Creator) : s.addAll [] = s := rfl

theorem addAll_cons (s : Creator) (it : Item) (items : List Item) :
    s.addAll (it :: items) = (s.add it).1.addAll items := rfl

theorem addAll_induction {P : Creator → List Item → Prop}
    (hstep : ∀ s items it, P s items → P (s.add it).1 (items ++ [it]))
    (s : Creator) (pre items : List Item) (h : P s pre) : P (s.addAll items) (pre ++ items) := by
  induction items generalizing s pre with
  | nil => simpa [addAll_nil] using h
  | cons it items ih => simpa [addAll_cons] using ih _ _ (hstep s pre it h)

theorem add_infos_length (s : Creator) (it : Item) :
    (s.add it).1.infos.length = s.infos.length + 1 := by
  unfold Creator.add
  cases hcomp : it.comp
  · cases hs : s.raw with
    | none => simp
    | some c => by_cases hf : c.isFull it.data.length = true <;> simp [hf]
  · cases hs : s.comp with
    | none => simp
    | some c => by_cases hf : c.isFull it.data.length = true <;> simp [hf]

theorem addAll_infos_length (s : Creator) (items : List Item) :
    (s.addAll items).infos.length = s.infos.length + items.length := by
  simpa using addAll_induction (P := fun t l => t.infos.length = s.infos.length + l.length)
    (fun t l it h => by rw [add_infos_length, h, List.length_append]; rfl) s [] items rfl

theorem creatorInv_addAll_both (items : List Item) :
    CreatorInv (Creator.init.addAll items) items ∧ CreatorSizeInv (Creator.init.addAll items) items := by
  simpa using addAll_induction (P := fun s l => CreatorInv s l ∧ CreatorSizeInv s l)
    (fun s l it h => ⟨creatorInv_add s l it h.1, creatorSizeInv_add s l it h.1 h.2⟩)
    Creator.init [] items ⟨creatorInv_init, creatorSizeInv_init⟩

theorem creatorInv_addAll (items : List Item) : CreatorInv (Creator.init.addAll items) items :=
  (creatorInv_addAll_both items).1

theorem creatorSizeInv_addAll (items : List Item) :
    CreatorSizeInv (Creator.init.addAll items) items :=
  (creatorInv_addAll_both items).2

/-- an open cluster is never empty -/
theorem CreatorInv.finalize_eq {s : Creator} {items : List Item} (h : CreatorInv s items) :
    s.finalize.1 = s.allClusters ∧ s.finalize.2 = s.infos := by
  have hne : ∀ c, s.raw = some c ∨ s.comp = some c → c.blobs.isEmpty = false := fun c hc =>
    List.isEmpty_eq_false_iff.2 (List.ne_nil_of_length_pos (h.nonempty c (mem_allClusters.2 (Or.inr hc))).1)
  unfold Creator.finalize Creator.allClusters
  refine ⟨?_, rfl⟩
  cases h1 : s.raw <;> cases h2 : s.comp <;> simp [h1, h2] at hne <;> simp [hne]

/-- the form Verbatim.lean rewrites `finalize` away with -/
theorem finalize_eq_all (items : List Item) :
    ((Creator.init.addAll items).finalize).1 = (Creator.init.addAll items).allClusters ∧
    ((Creator.init.addAll items).finalize).2 = (Creator.init.addAll items).infos :=
  (creatorInv_addAll items).finalize_eq

theorem creator_roundtrip (items : List Item) :
    let r := (Creator.init.addAll items).finalize
    r.2.length = items.length ∧
    ∀ i (_ : i < items.length), resolve r.1 (r.2.getD i (0,0)) =
      some ((items.getD i ⟨[], false⟩).data, (items.getD i ⟨[], false⟩).comp) := by
  have h := creatorInv_addAll items
  simp only [h.finalize_eq.1, h.finalize_eq.2]
  exact ⟨h.infos_len, h.resolves⟩

/-- Where the regenerated constant must not exceed 4095: a blob index is 12 bits of a content info, and
    a tail of 4094 offsets of 8 bytes stays below the 2^16 a `SizedOffset` keeps for its size. -/
theorem maxBlobsPerCluster_le : Consts.maxBlobsPerCluster ≤ 4095 := by decide

theorem creator_ids (items : List Item) :
    let r := (Creator.init.addAll items).finalize
    (r.1.map (·.idx)).Nodup ∧ (∀ c ∈ r.1, c.idx < r.1.length) ∧
    (∀ c ∈ r.1, 1 ≤ c.blobs.length ∧ c.blobs.length ≤ Consts.maxBlobsPerCluster) ∧
    (∀ info ∈ r.2, info.2 < 4096) := by
  have h := creatorInv_addAll items
  simp only [h.finalize_eq.1, h.finalize_eq.2]
  exact ⟨h.ids_nodup, fun c hc => h.count ▸ h.ids_lt c hc, h.nonempty,
    fun info hi => by have := h.blob_lt info hi; have := maxBlobsPerCluster_le; omega⟩

/-- `c01_roundtrip_structure`, `c08_any_schedule`, `c16_hint` -/
theorem creator_roundtrip_any_arrival (items : List Item) (arrival : List Cluster)
    (hp : arrival.Perm ((Creator.init.addAll items).finalize).1) :
    ∀ i (_ : i < items.length),
      resolve arrival (((Creator.init.addAll items).finalize).2.getD i (0,0)) =
        some ((items.getD i ⟨[], false⟩).data, (items.getD i ⟨[], false⟩).comp) := by
  have h := creatorInv_addAll items
  rw [h.finalize_eq.1] at hp
  rw [h.finalize_eq.2]
  intro i hi
  rw [resolve_perm hp.symm h.ids_nodup]
  exact h.resolves i hi

end Jubako
