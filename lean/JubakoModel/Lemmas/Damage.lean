/-
Damage monotonicity of the reader (C05 and C06, file level).  `g` is a damaged copy of `f`
(`BlocksAgree f g`) when no block passes its CRC in `g` with other bytes than in `f`: "storage and
transfer damage, not an adversary".  Truncation, extension and every alteration within 4 consecutive
bytes give such copies with no collision hypothesis.  The reader run on `g` then follows the run on
`f` (`Follows`): it answers an error or, for what is read out of CRC-checked blocks, the same value;
content bytes sit in payloads without CRC, of them only the size is the same (`SameShape`).
-/
import JubakoModel.Model.Container
import JubakoModel.Lemmas.CrcWindow

namespace Jubako

/-- `x` is the run on the damaged file, `y` the run on the original -/
def Follows {α : Type} (R : α → α → Prop) (x y : Outcome α) : Prop :=
  ∀ v, y = .ok v → (∃ v', x = .ok v' ∧ R v' v) ∨ ∃ k, x = .err k

abbrev SameOrErr {α : Type} (x y : Outcome α) : Prop := Follows Eq x y

theorem SameOrErr.refl {α : Type} {x : Outcome α} : SameOrErr x x :=
  fun v hv => Or.inl ⟨v, hv, rfl⟩

theorem SameOrErr.of_eq {α : Type} {x y : Outcome α} (h : x = y) : SameOrErr x y := by
  subst h; exact SameOrErr.refl

theorem Follows.err {α : Type} {R : α → α → Prop} {k : ErrKind} {y : Outcome α} : Follows R (.err k) y := by
  intro v _; exact Or.inr ⟨k, rfl⟩

theorem Follows.of_not_ok {α : Type} {R : α → α → Prop} {x y : Outcome α} (h : ∀ v, y ≠ .ok v) : Follows R x y := by
  intro v hv; exact absurd hv (h v)

theorem Follows.panic {α : Type} {R : α → α → Prop} {x : Outcome α} {s : String} : Follows R x (.panic s) :=
  Follows.of_not_ok nofun

theorem Follows.ok {α : Type} {R : α → α → Prop} {a b : α} (h : R a b) : Follows R (.ok a) (.ok b) := by
  intro v hv; cases hv; exact Or.inl ⟨a, rfl, h⟩

/-- (`split` on a goal that holds the reader twice is slow) -/
theorem Follows.ite {α : Type} {R : α → α → Prop} (c : Prop) [Decidable c] {x x' y y' : Outcome α}
    (h1 : c → Follows R x y) (h2 : ¬c → Follows R x' y') :
    Follows R (if c then x else x') (if c then y else y') := by
  split
  · exact h1 ‹_›
  · exact h2 ‹_›

/-- a value handed out after a test that the two files may answer differently -/
theorem Follows.ite_ok {α : Type} {R : α → α → Prop} {c c' : Prop} [Decidable c] [Decidable c'] {a a' : α}
    {k k' : ErrKind} (h : c → c' → R a' a) :
    Follows R (if c' then .ok a' else .err k') (if c then .ok a else .err k) := by
  intro v hv
  split at hv
  · cases hv
    split
    · exact Or.inl ⟨_, rfl, h ‹_› ‹_›⟩
    · exact Or.inr ⟨_, rfl⟩
  · cases hv

theorem Follows.mono {α : Type} {R S : α → α → Prop} (h : ∀ a b, R a b → S a b) {x y : Outcome α}
    (hx : Follows R x y) : Follows S x y := by
  intro v hv
  rcases hx v hv with ⟨v', h1, h2⟩ | he
  · exact Or.inl ⟨v', h1, h _ _ h2⟩
  · exact Or.inr he

theorem Follows.bind {α β : Type} {R : α → α → Prop} {S : β → β → Prop} {x y : Outcome α}
    {G F : α → Outcome β} (hxy : Follows R x y)
    (hGF : ∀ a a', y = .ok a → R a' a → Follows S (G a') (F a)) : Follows S (x >>= G) (y >>= F) := by
  intro v hv
  obtain ⟨a, rfl, hv'⟩ := Outcome.bind_eq_ok.1 hv
  rcases hxy a rfl with ⟨a', rfl, h2⟩ | ⟨k, rfl⟩
  · exact hGF a a' rfl h2 v hv'
  · exact Or.inr ⟨k, rfl⟩

theorem SameOrErr.bind {α β : Type} {S : β → β → Prop} {x y : Outcome α}
    {G F : α → Outcome β} (hxy : SameOrErr x y)
    (hGF : ∀ a, y = .ok a → Follows S (G a) (F a)) : Follows S (x >>= G) (y >>= F) :=
  Follows.bind hxy (fun a a' ha hr => by subst hr; exact hGF a' ha)

theorem SameOrErr.bind_same {α β : Type} {S : β → β → Prop} {y : Outcome α}
    {G F : α → Outcome β} (hGF : ∀ a, y = .ok a → Follows S (G a) (F a)) : Follows S (y >>= G) (y >>= F) :=
  SameOrErr.bind .refl hGF

theorem SameOrErr.foldlM {α β : Type} {l : List α} {G F : β → α → Outcome β}
    (h : ∀ b a, SameOrErr (G b a) (F b a)) {init : β} :
    SameOrErr (l.foldlM G init) (l.foldlM F init) := by
  induction l generalizing init with
  | nil => exact .refl
  | cons a l ih =>
    simp only [List.foldlM_cons]
    exact SameOrErr.bind (h init a) (fun b _ => ih)

/-- what "follows" buys: no crash … -/
theorem Follows.no_crash {α : Type} {R : α → α → Prop} {x y : Outcome α} (h : Follows R x y) {v : α}
    (hy : y = .ok v) : x.isValueOrError = true := by
  rcases h v hy with ⟨v', h1, _⟩ | ⟨k, hk⟩
  · subst h1; rfl
  · subst hk; rfl

/-- … and no other value -/
theorem SameOrErr.ok_or_err {α : Type} {x y : Outcome α} (h : SameOrErr x y) {v : α} (hy : y = .ok v) :
    x = .ok v ∨ ∃ k, x = .err k := by
  rcases h v hy with ⟨v', h1, h2⟩ | he
  · exact Or.inl (h2 ▸ h1)
  · exact Or.inr he

/-- … and no other value -/
theorem SameOrErr.value_eq {α : Type} {x y : Outcome α} (h : SameOrErr x y) (v v' : α)
    (hy : y = .ok v) (hx : x = .ok v') : v' = v := by
  rcases h.ok_or_err hy with h1 | ⟨k, hk⟩
  · exact Outcome.ok.inj (hx.symm.trans h1)
  · cases hx.symm.trans hk

/-- every block that verifies in `f` is found unchanged at the same place in `g`, or does not
    verify there.  The original comes first here; `Follows` and `SameShape` take the damaged side first. -/
def BlocksAgree (f g : Bytes) : Prop :=
  ∀ off n b b', readBlock f off n = .ok b → readBlock g off n = .ok b' → b' = b

theorem BlocksAgree.read {f g : Bytes} (h : BlocksAgree f g) {off n : Nat} :
    SameOrErr (readBlock g off n) (readBlock f off n) := by
  intro b hb
  rcases readBlock_cases g off n with ⟨b', hb'⟩ | he
  · exact Or.inl ⟨b', hb', h off n b b' hb hb'⟩
  · exact Or.inr he

theorem BlocksAgree.refl (f : Bytes) : BlocksAgree f f := by
  intro off n b b' h1 h2; rw [h1] at h2; cases h2; rfl

theorem BlocksAgree.of_slices {f g : Bytes}
    (h : ∀ off m, 4 ≤ m → off + m ≤ f.length → off + m ≤ g.length → checkBlock (slice f off m) = true →
      checkBlock (slice g off m) = true → slice g off m = slice f off m) : BlocksAgree f g := by
  intro off n b b' h1 h2
  rw [readBlock_ok_iff] at h1 h2
  rw [h1.2.2, h2.2.2, h off (n + 4) (Nat.le_add_left 4 n) h1.1 h2.1 h1.2.1 h2.2.1]

theorem BlocksAgree.of_common {f g : Bytes} (h : ∀ k, k < f.length → k < g.length → g[k]? = f[k]?) :
    BlocksAgree f g :=
  .of_slices fun off m _ hf hg _ _ => slice_congr fun k hk => h _ (by omega) (by omega)

theorem BlocksAgree.take (f : Bytes) (k : Nat) : BlocksAgree f (f.take k) :=
  BlocksAgree.of_common fun j _ hj => List.getElem?_take_of_lt (by rw [List.length_take] at hj; omega)

theorem BlocksAgree.append (f junk : Bytes) : BlocksAgree f (f ++ junk) :=
  BlocksAgree.of_common fun _ hj _ => List.getElem?_append_left hj

/-- `i` counts from the start of the slice -/
theorem slice_window_inj {f g : Bytes} {off m : Nat} (h4 : 4 ≤ m) (hf : (slice f off m).length = m)
    (hg : (slice g off m).length = m) (cf : checkBlock (slice f off m) = true)
    (cg : checkBlock (slice g off m) = true) (i : Nat)
    (hsame : ∀ k, k < m → (k < i ∨ i + 4 ≤ k) → g[off + k]? = f[off + k]?) : slice g off m = slice f off m := by
  refine checkBlock_window_inj (hg.trans hf.symm) (by rwa [hg]) cg cf i fun k hk hw => ?_
  rw [hg] at hk
  rw [slice_getElem?, slice_getElem?, if_pos hk, if_pos hk]
  exact hsame k hk hw

theorem BlocksAgree.of_window {f g : Bytes} (i : Nat)
    (hsame : ∀ k, k < f.length → k < g.length → (k < i ∨ i + 4 ≤ k) → g[k]? = f[k]?) :
    BlocksAgree f g :=
  .of_slices fun off m h4 hf hg cf cg =>
    slice_window_inj h4 (slice_length hf) (slice_length hg) cf cg (i - off) fun k _ _ =>
      hsame _ (by omega) (by omega) (by omega)

theorem BlocksAgree.set (f : Bytes) (pos : Nat) (b : UInt8) : BlocksAgree f (f.set pos b) :=
  BlocksAgree.of_window pos fun k _ _ hk => by rw [List.getElem?_set_ne (by omega)]

/-- what the content reader keeps under damage: whether the content exists, and its size -/
def SameShape (r' r : Option Bytes) : Prop := r'.map List.length = r.map List.length

theorem SameShape.of_some {r' : Option Bytes} {b : Bytes} (h : SameShape r' (some b)) :
    ∃ b', r' = some b' ∧ b'.length = b.length := by
  cases r' with
  | none => cases h
  | some b' => exact ⟨b', rfl, Option.some.inj h⟩

theorem SameShape.of_none {r' : Option Bytes} (h : SameShape r' none) : r' = none := by
  cases r' with
  | none => rfl
  | some b' => cases h

theorem blobOf_follows (t : ClusterTail) (p p' : Bytes) (blob : Nat) :
    Follows (fun b' b => b'.length = b.length) (blobOf t p' blob) (blobOf t p blob) := by
  unfold blobOf
  refine Follows.ite _ (fun _ => ?_) (fun _ => Follows.panic)
  refine Follows.ite _ (fun hbe => ?_) (fun _ => Follows.panic)
  generalize (0 :: t.offsets ++ [t.dataSize]).getD blob 0 = b at hbe ⊢
  generalize (0 :: t.offsets ++ [t.dataSize]).getD (blob + 1) 0 = e at hbe ⊢
  -- a region inside both payloads has the same length in both
  have hb : b + (e - b) = e := Nat.add_sub_cancel' hbe
  exact Follows.ite_ok fun h h' => (slice_length (hb.symm ▸ h' : b + (e - b) ≤ _)).trans
    (slice_length (hb.symm ▸ h : b + (e - b) ≤ _)).symm

section readers
variable {f g : Bytes} (hD : BlocksAgree f g)
include hD

theorem openHeader_follows (k : PackKind) : SameOrErr (openHeader g k) (openHeader f k) := by
  unfold openHeader
  exact SameOrErr.bind hD.read (fun hd _ => SameOrErr.refl)

theorem contentOpen_follows : SameOrErr (contentOpen g) (contentOpen f) := by
  unfold contentOpen
  refine SameOrErr.bind (openHeader_follows hD _) (fun h _ => ?_)
  refine SameOrErr.bind hD.read (fun cb _ => ?_)
  refine SameOrErr.bind_same (fun ch _ => ?_)
  refine SameOrErr.bind hD.read (fun _ _ => ?_)
  refine SameOrErr.bind hD.read (fun _ _ => ?_)
  exact SameOrErr.refl

theorem clusterAt_follows (so : Nat × Nat) : SameOrErr (clusterAt g so) (clusterAt f so) := by
  unfold clusterAt
  refine SameOrErr.bind hD.read (fun tb _ => ?_)
  exact SameOrErr.refl

/-- behind `c05_file_content_shape` -/
theorem contentGet_follows (dec : Nat → Bytes → Option Bytes) (i : Nat) :
    Follows SameShape (contentGet dec g i) (contentGet dec f i) := by
  have hblob : ∀ (t : ClusterTail) (p p' : Bytes) (blob : Nat),
      Follows SameShape (blobOf t p' blob >>= fun b => .ok (some b))
        (blobOf t p blob >>= fun b => .ok (some b)) :=
    fun t p p' blob => Follows.bind (blobOf_follows t p p' blob) fun b b' _ hb =>
      Follows.ok (congrArg some hb)
  unfold contentGet
  refine SameOrErr.bind (contentOpen_follows hD) (fun hc _ => ?_)
  refine Follows.ite _ (fun _ => Follows.ok rfl) fun _ => ?_
  refine SameOrErr.bind hD.read (fun infoTable _ => ?_)
  refine Follows.ite _ (fun _ => Follows.err) fun _ => ?_
  refine SameOrErr.bind hD.read (fun ptrTable _ => ?_)
  refine SameOrErr.bind (clusterAt_follows hD _) (fun ts _ => ?_)
  refine Follows.ite _ (fun _ => hblob _ _ _ _) fun _ => ?_
  -- the payload carries no CRC: the decoder may deliver anything for the damaged one
  cases dec ts.1.comp (slice f ts.2 ts.1.rawSize) with
  | none => exact Follows.of_not_ok nofun
  | some plain =>
    cases dec ts.1.comp (slice g ts.2 ts.1.rawSize) with
    | none => exact Follows.err
    | some plain' => exact hblob _ _ _ _

end readers

end Jubako
