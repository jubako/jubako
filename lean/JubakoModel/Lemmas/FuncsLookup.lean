/-
Ties of the lookups and the check of the container reader (`reader/jubako.rs`, `reader/manifest_pack.rs`,
`reader/locator.rs`) to the Rust bodies translated from the source on every run (Generated/FuncsLookup.lean).
-/
import JubakoModel.Model.Container
import JubakoModel.Generated.FuncsLookup
import JubakoModel.Lemmas.Missing

namespace Jubako

/-- `ManifestPack::get_content_pack_info`. Both sides are projected to the pack id: the two lookups succeed on the
    same ids, which of several infos with one id is found is not compared. -/
theorem gen_manifestLookup (infos : List PackInfo) (packId : Nat) :
    (infos.find? (fun i => i.packId == packId)).map (·.packId) =
      Generated.manifestPackInfoById (infos.map (·.packId)) packId := by
  unfold Generated.manifestPackInfoById
  rw [List.find?_map]
  rfl

/-- `hloop` is the shape the translator gives a `for` over `xs` with an early `return`; `F` is what the scan computes -/
theorem indexLoop_eq {α β : Type} (xs : List α) (d : α) (F : List α → β) (step : α → Option β → Option β)
    (loop : Nat → Nat → Option β)
    (hloop : ∀ i fuel, loop i (fuel + 1) =
      if i < xs.length then step (xs.getD i d) (loop (i + 1) fuel) else some (F []))
    (hF : ∀ x l, step x (some (F l)) = some (F (x :: l))) :
    ∀ fuel i, xs.length - i < fuel → loop i fuel = some (F (xs.drop i)) := by
  intro fuel
  induction fuel with
  | zero => intro i h; omega
  | succ f ih =>
    intro i h
    rw [hloop]
    by_cases hi : i < xs.length
    · rw [if_pos hi, ih (i + 1) (by omega), hF, ← List.getElem_eq_getD (h := hi) d, List.getElem_cons_drop]
    · rw [if_neg hi, List.drop_eq_nil_of_le (by omega)]

/-- `ChainedLocator::locate`: the first locator, in chain order, that finds the pack; `some`: it terminates -/
theorem gen_chainedLocate {α : Type} (answers : List (Option α)) :
    Generated.chainedLocate answers = some (answers.findSome? id) :=
  indexLoop_eq answers none (·.findSome? id) (fun x r => if x.isSome = true then some x else r)
    (Generated.chainedLocate_loop answers) (fun _ _ => rfl) (fun x l => by cases x <;> rfl)
    (answers.length + 1) 0 (by omega)

/-- the chain of the reader is [the file at hand, the recorded location] (`reader/jubako.rs`) -/
theorem locate_is_chain (fs : FS) (entryFile : String) (entryPacks : List PackAt) (uuid : Bytes) (location : String)
    (r : Option Located) (hfs : fsLocate fs uuid location = .ok r) :
    Outcome.ok <$> Generated.chainedLocate
        [(entryPacks.find? (fun p => p.uuid == uuid)).map (fun p => (⟨entryFile, p⟩ : Located)), r] =
      some (locate fs entryFile entryPacks uuid location) := by
  rw [gen_chainedLocate]
  unfold locate
  cases h : entryPacks.find? (fun p => p.uuid == uuid) with
  | none => cases r <;> simp [hfs]
  | some p => simp

def locatedAllOk (packs : List (Option Bool)) : Bool := packs.all (fun p => p.getD true)

/-- `Container::check`; `some`: it terminates. A pack that cannot be located is skipped and the loop goes on. -/
theorem gen_containerCheck (m d : Bool) (packs : List (Option Bool)) :
    Generated.containerCheck m d packs = some (m && d && locatedAllOk packs) := by
  unfold Generated.containerCheck
  cases m <;> cases d <;> simp
  -- `| _ =>` as the translator writes it: with `| none =>` the two matches differ and `hloop` is not `rfl`
  exact indexLoop_eq packs none locatedAllOk
    (fun x r => match x with | some b => if ¬ b = true then some false else r | _ => r)
    (Generated.containerCheck_loop true true packs) (fun _ _ => rfl) (fun x l => by rcases x with _ | _ | _ <;> rfl)
    (packs.length + 1) 0 (by omega)

/-- what `containerCheck` does for one listed pack: `none` = not located, `some b` = located, re-opened blindly,
    verdict `b`. The nested matches spell
    `(locate …).bind fun | none => .ok none | some l => (blindOpen …).bind fun packs => (packsCheck …).map' some` -/
def packCheckStep (H : Bytes → Bytes) (fs : FS) (c : ContainerView) (info : PackInfo) : Outcome (Option Bool) :=
  match locate fs c.entryFile c.entryPacks info.uuid (locationString info.location) with
  | .ok none => .ok none
  | .ok (some l) =>
    match blindOpen (bytesOfLocated fs l) with
    | .ok packs =>
      match packsCheck H (bytesOfLocated fs l) packs with
      | .ok b => .ok (some b)
      | .err k => .err k
      | .panic s => .panic s
      | .hang => .hang
      | .fault => .fault
    | .err k => .err k
    | .panic s => .panic s
    | .hang => .hang
    | .fault => .fault
  | .err k => .err k
  | .panic s => .panic s
  | .hang => .hang
  | .fault => .fault

theorem stepCheck_eq_packCheckStep (H : Bytes → Bytes) (fs : FS) (c : ContainerView) (info : PackInfo) :
    stepCheck H fs c info = (packCheckStep H fs c info).map' (·.getD true) := by
  unfold stepCheck packCheckStep locatedCheck
  cases locate fs c.entryFile c.entryPacks info.uuid (locationString info.location) with
  | ok r =>
    cases r with
    | none => rfl
    | some l =>
      simp only [Outcome.ok_bind]
      cases blindOpen (bytesOfLocated fs l) with
      | ok packs => simp only [Outcome.ok_bind]; cases packsCheck H (bytesOfLocated fs l) packs <;> rfl
      | _ => rfl
  | _ => rfl

/-- whenever every part answers, the reader model's `containerCheck` is the translated `Container::check` over the
    verdicts of the parts -/
theorem containerCheck_is_source_check (H : Bytes → Bytes) (fs : FS) (c : ContainerView) (m d : Bool)
    (vs : List (Option Bool))
    (hm : manifestCheck H c.manifest = .ok m) (hd : packCheck H id c.dirPack = .ok d)
    (hv : (c.infos.filter (fun i => i.kind ≠ .directory)).map (packCheckStep H fs c) = vs.map Outcome.ok) :
    some (containerCheck H fs c) = Outcome.ok <$> Generated.containerCheck m d vs := by
  rw [gen_containerCheck, containerCheck_eq, hm, hd]
  cases m with
  | false => rfl
  | true =>
    cases d with
    | false => rfl
    | true =>
      have e := congrArg (List.map (Outcome.map' (·.getD true))) hv
      rw [List.map_map, List.map_map] at e
      have := foldlM_all_map (stepCheck H fs c) c.contentInfos (vs.map (·.getD true)) (by
        rw [List.map_map]
        exact (List.map_congr_left fun i _ => stepCheck_eq_packCheckStep H fs c i).trans e)
      rw [List.all_map] at this
      exact congrArg some this

/-- run the translated `PackOffsetsIter::next` until it answers `None` -/
def drainOffsets (B : Nat) : Nat → Nat → Nat → List Nat
  | 0, _, _ => []
  | fuel + 1, off, left =>
    match Generated.packOffsetsNext B off left with
    | (some o, off', left') => o :: drainOffsets B fuel off' left'
    | (none, _, _) => []

theorem drainOffsets_eq (B : Nat) : ∀ left off fuel, left < fuel → drainOffsets B fuel off left = List.range' off left B := by
  intro left
  induction left with
  | zero => intro off fuel h; cases fuel with | zero => omega | succ f => rfl
  | succ n ih =>
    intro off fuel h
    cases fuel with
    | zero => omega
    | succ f => exact congrArg (off :: ·) (ih (off + B) f (by omega))

/-- **The offsets at which the reader looks for the pack infos of a manifest are the source's**:
    `PackOffsetsIter::new` and `next` (`reader/manifest_pack.rs`) translated on every run enumerate exactly
    `packInfosOffset checkInfoPos count + k * 256` for `k < count` — the offsets `manifestOpen`, `setLocation`
    and the masked check stream of the model use — and then stop. -/
theorem gen_packOffsets (cip count : Nat) :
    drainOffsets packInfoBlockSize (count + 1) (Generated.packOffsetsNew packInfoBlockSize cip count).1
        (Generated.packOffsetsNew packInfoBlockSize cip count).2 =
      (List.range count).map (fun k => packInfosOffset cip count + k * packInfoBlockSize) := by
  refine (drainOffsets_eq _ count _ _ (by omega)).trans (List.ext_getElem (by simp) fun i h _ => ?_)
  rw [List.getElem_range', List.getElem_map, List.getElem_range, Nat.mul_comm]
  rfl

/-- `FsLocator::locate`, applied to the model's blind open. `path.is_file()` is "the location is not empty and the
    file exists": `base_dir.join("")` is the directory itself. -/
theorem gen_fsLocate (fs : FS) (uuid : Bytes) (location : String) :
    fsLocate fs uuid location =
      Generated.fsLocatorLocate (decide (location ≠ "" ∧ (fs.get location).isSome)) (Outcome.ok ((fs.get location).getD []))
        (fun f => blindOpen f)
        (fun packs => (packs.find? (fun p => p.uuid == uuid)).map (fun p => (⟨location, p⟩ : Located))) := by
  unfold fsLocate Generated.fsLocatorLocate
  by_cases h : location = ""
  · simp [h]
  · cases hf : fs.get location with
    | none => simp [h]
    | some f => simp [h, bind, Outcome.bind]

/-- the three answers of `get_pack` out of the source's `Option<MayMissPack<_>>` -/
def lookupOfSrc : Option (Sum PackInfo Bytes) → PackLookup
  | none => .unknown
  | some (.inl info) => .missing info
  | some (.inr b) => .found b

/-- `Container::_get_pack`, applied to the model's manifest lookup and locator chain; the bound on pack ids is
    that of `get_pack` -/
theorem gen_containerGetPack (fs : FS) (c : ContainerView) (packId : Nat) :
    containerGetPack fs c packId =
      (if packId ≥ (((c.infos.filter (fun i => i.kind ≠ .directory)).map (·.packId)).foldl max 0) + 1 then .ok .unknown
       else
        (Generated.containerGetPackInner
          (fun id => (c.infos.filter (fun i => i.kind ≠ .directory)).find? (fun i => i.packId == id))
          (fun info => (locate fs c.entryFile c.entryPacks info.uuid (locationString info.location)).map'
            (fun o => o.map (bytesOfLocated fs)))
          (fun b => Outcome.ok b) packId).map' lookupOfSrc) := by
  unfold containerGetPack Generated.containerGetPackInner
  simp only []
  split
  · rfl
  · cases hfind : List.find? (fun i => i.packId == packId) (List.filter (fun i => decide (i.kind ≠ PackKind.directory)) c.infos) with
    | none => rfl
    | some info =>
      simp only [bind]
      cases hl : locate fs c.entryFile c.entryPacks info.uuid (locationString info.location) with
      | ok o => cases o <;> rfl
      | _ => rfl

end Jubako
