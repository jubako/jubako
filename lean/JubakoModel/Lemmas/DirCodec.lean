/- Directory pack codecs: column widths (unsigned / two's complement), padding and the property
   headers of an entry-store layout. -/
import JubakoModel.Model.DirWriter
import JubakoModel.Lemmas.RawPropDecode

namespace Jubako

theorem le_listMax (l : List Nat) (x : Nat) (h : x ∈ l) : x ≤ listMax l := by
  rw [listMax, List.foldl_max]
  exact Nat.le_trans (List.le_max?_getD_of_mem h) (Nat.le_max_right ..)

theorem listMax_lt (l : List Nat) (b : Nat) (hb : 0 < b) (h : ∀ x ∈ l, x < b) : listMax l < b := by
  rw [listMax, List.foldl_max, Nat.zero_max]
  cases hm : l.max? with
  | none => exact hb
  | some m => exact h m (List.max?_mem hm)

theorem constantOf_some {α} [DecidableEq α] (l : List α) (d : α) (h : constantOf l = some d) :
    d ∈ l ∧ ∀ x ∈ l, x = d := by
  cases l with
  | nil => simp [constantOf] at h
  | cons y ys =>
    simp only [constantOf] at h
    split at h
    · rename_i hall
      simp only [Option.some.injEq] at h
      subst h
      refine ⟨List.mem_cons_self .., ?_⟩
      intro x hx
      rcases List.mem_cons.1 hx with rfl | hx
      · rfl
      · simpa using List.all_eq_true.1 hall x hx
    · cases h

theorem uint_column_fits (col : List Nat) (v : Nat) (h : v ∈ col) :
    v < 256 ^ neededBytes (listMax col) :=
  Nat.lt_of_le_of_lt (le_listMax col v h) (neededBytes_spec (listMax col)).1

theorem neededBytes_listMax_bounds {α} (col : List α) (f : α → Nat) (k : Nat) (hk : 1 ≤ k)
    (h : ∀ w ∈ col, f w < 256 ^ k) :
    1 ≤ neededBytes (listMax (col.map f)) ∧ neededBytes (listMax (col.map f)) ≤ k :=
  ⟨(neededBytes_spec _).2,
    neededBytes_min _ k hk (listMax_lt _ _ (Nat.pow_pos (by decide)) (List.forall_mem_map.2 h))⟩

theorem uint_roundtrip (col : List Nat) (v : Nat) (h : v ∈ col) :
    leNat (leBytes v (neededBytes (listMax col))) = v :=
  leNat_leBytes_of_lt _ _ (uint_column_fits col v h)

theorem uint_narrow_alters (v n : Nat) (h : 256 ^ n ≤ v) : leNat (leBytes v n) ≠ v := by
  rw [leNat_leBytes]
  have : v % 256 ^ n < 256 ^ n := Nat.mod_lt _ (Nat.pow_pos (by omega))
  omega

/-- Meant for `1 ≤ n`: at `n = 0` the exponent `8 * 0 - 1` is `0` and `-1`, `0` fit. -/
def fitsSigned (v : Int) (n : Nat) : Prop :=
  -(2 ^ (8 * n - 1) : Int) ≤ v ∧ v < (2 ^ (8 * n - 1) : Int)

/-- The powers of two that `signExtend`, `fitsSigned` and `leBytes` speak of are `h` and `2 * h`
    for the weight `h` of the sign bit, which `omega` can take as an atom. -/
theorem signBit (n : Nat) (hn : 1 ≤ n) :
    ∃ h : Nat, 256 ^ n = 2 * h ∧ 2 ^ (8 * n - 1) = h ∧ (2 : Int) ^ (8 * n - 1) = h ∧
      (2 : Int) ^ (8 * n) = 2 * h := by
  obtain ⟨k, hk⟩ : ∃ k, 8 * n = k + 1 := ⟨8 * n - 1, by omega⟩
  have e : (256 : Nat) ^ n = 2 * 2 ^ k := by
    rw [← Nat.pow_succ', Nat.succ_eq_add_one, ← hk, Nat.pow_mul]
  rw [hk, Nat.add_sub_cancel]
  refine ⟨2 ^ k, e, rfl, ?_, ?_⟩
  · exact (Int.natCast_pow 2 k).symm
  · rw [Int.pow_succ', Int.natCast_pow]; rfl

theorem signExtend_fits (u n : Nat) (hn : 1 ≤ n) (hu : u < 256 ^ n) : fitsSigned (signExtend u n) n := by
  obtain ⟨h, e1, e2, e3, e4⟩ := signBit n hn
  simp only [fitsSigned, signExtend, e2, e3, e4, if_neg (Nat.ne_of_gt hn)]
  split <;> omega

theorem signExtend_emod (v : Int) (n : Nat) (hn : 1 ≤ n) (hf : fitsSigned v n) :
    signExtend (v % (256 ^ n : Nat)).toNat n = v := by
  obtain ⟨h, e1, e2, e3, e4⟩ := signBit n hn
  simp only [fitsSigned, signExtend, e1, e2, e3, e4, if_neg (Nat.ne_of_gt hn)] at hf ⊢
  by_cases hv : 0 ≤ v
  · rw [Int.emod_eq_of_lt hv (by omega), if_pos (by omega)]; omega
  · rw [← Int.add_emod_right, Int.emod_eq_of_lt (by omega) (by omega), if_neg (by omega)]; omega

theorem leNat_leBytesInt (v : Int) (n : Nat) (hn8 : n ≤ 8) :
    leNat (leBytesInt v n) = (v % (256 ^ n : Nat)).toNat := by
  have hd : ((256 ^ n : Nat) : Int) ∣ 2 ^ 64 :=
    ⟨((256 ^ (8 - n) : Nat) : Int), by
      rw [← Int.natCast_mul, ← Nat.pow_add, show n + (8 - n) = 8 by omega]; rfl⟩
  rw [leBytesInt, leNat_leBytes, ← Int.emod_emod_of_dvd v hd,
    Int.toNat_emod (Int.emod_nonneg v (by decide)) (Int.natCast_nonneg _), Int.toNat_natCast]

theorem sint_roundtrip (v : Int) (n : Nat) (hn : 1 ≤ n) (hn8 : n ≤ 8) (hf : fitsSigned v n) :
    signExtend (leNat (leBytesInt v n)) n = v := by
  rw [leNat_leBytesInt v n hn8]; exact signExtend_emod v n hn hf

theorem sint_narrow_alters (v : Int) (n : Nat) (hn : 1 ≤ n) (hf : ¬ fitsSigned v n) :
    signExtend (leNat (leBytesInt v n)) n ≠ v := fun h =>
  -- whatever `n` bytes hold, sign-extended, fits `n` bytes
  hf (h ▸ signExtend_fits _ n hn (by
    have := leNat_lt (leBytesInt v n); rwa [leBytesInt, leBytes_length] at this))

theorem signedSizeKey_lt (v : Int) : signedSizeKey v < 2 ^ 63 := by
  simp only [signedSizeKey]
  omega

theorem signedSizeKey_lt_of_fits (v : Int) (n : Nat) (hn : 1 ≤ n) (hf : fitsSigned v n) :
    signedSizeKey v < 256 ^ n := by
  obtain ⟨h, e1, e2, e3, e4⟩ := signBit n hn
  simp only [fitsSigned, signedSizeKey, e1, e3] at hf ⊢
  omega

theorem fits_of_signedSizeKey_lt (v : Int) (hr : -(2 ^ 63 : Int) ≤ v ∧ v < 2 ^ 63) (n : Nat)
    (hn : 1 ≤ n) (hk : signedSizeKey v < 256 ^ n) : fitsSigned v n := by
  obtain ⟨h, e1, e2, e3, e4⟩ := signBit n hn
  -- below 8 bytes the key is not saturated; from 8 bytes on every `i64` fits
  have hc : 256 ^ n ≤ 256 ^ 7 ∨ 2 ^ 63 ≤ h := by
    by_cases h7 : n ≤ 7
    · exact Or.inl (Nat.pow_le_pow_right (by decide) h7)
    · exact Or.inr (e2 ▸ Nat.pow_le_pow_right (by decide) (by omega))
  simp only [fitsSigned, signedSizeKey, e1, e3] at hk ⊢
  omega

theorem signedSizeKey_min (v : Int) (n : Nat) (hn : 1 ≤ n) (hf : fitsSigned v n) :
    neededBytes (signedSizeKey v) ≤ n :=
  neededBytes_min _ n hn (signedSizeKey_lt_of_fits v n hn hf)

theorem sint_column_fits (col : List Int) (hr : ∀ x ∈ col, -(2 ^ 63 : Int) ≤ x ∧ x < 2 ^ 63)
    (v : Int) (h : v ∈ col) : fitsSigned v (neededBytes (listMax (col.map signedSizeKey))) :=
  fits_of_signedSizeKey_lt v (hr v h) _ (neededBytes_spec _).2
    (Nat.lt_of_le_of_lt (le_listMax _ _ (List.mem_map_of_mem h)) (neededBytes_spec _).1)

theorem paddingProps_size (n : Nat) : propsSize (paddingProps n) = n := by
  fun_induction paddingProps n with
  | case1 => simp [propsSize]
  | case2 n h ih => simp only [propsSize, List.map_cons, List.sum_cons] at ih ⊢; omega
  | case3 n h => simp [propsSize]

theorem paddingProps_spec (n : Nat) :
    ∀ p ∈ paddingProps n, p.name = [] ∧ p.kind = .padding ∧ 1 ≤ p.size ∧ p.size ≤ 16 := by
  fun_induction paddingProps n with
  | case1 => simp
  | case2 n h ih =>
    intro p hp
    rcases List.mem_cons.mp hp with rfl | hp
    · simp
    · exact ih p hp
  | case3 n h =>
    intro p hp
    rcases List.mem_singleton.mp hp with rfl
    simp only [true_and]
    omega

theorem paddingProps_kind (n : Nat) :
    ∀ p ∈ paddingProps n, p.kind = .padding ∧ 1 ≤ p.size ∧ p.size ≤ 16 :=
  fun p hp => (paddingProps_spec n p hp).2

/-- The property headers the creator writes, with the side conditions under which `RawProp.encode`
    loses nothing:
    * padding: its header has no name field and the parser gives it the empty name, hence
      `p.name = []`;
    * integer widths `1 ≤ sz ≤ 8`: 3 bits of the info byte hold `sz - 1`;
    * arrays: `1 ≤ ks ≤ 7` (3 bits of the complement byte; `ks = 0` means "no value store"),
      `st < 256` (the store index is one byte). -/
def RawProp.Writable (p : RawProp) : Prop :=
  p.name.length ≤ 255 ∧
  match p.kind with
  | .padding => p.name = [] ∧ 1 ≤ p.size ∧ p.size ≤ 16
  | .variantId => p.size = 1
  | .uint sz none => 1 ≤ sz ∧ sz ≤ 8 ∧ p.size = sz
  | .uint sz (some d) => 1 ≤ sz ∧ sz ≤ 8 ∧ p.size = 0 ∧ d < 256 ^ sz
  | .sint sz none => 1 ≤ sz ∧ sz ≤ 8 ∧ p.size = sz
  | .sint sz (some d) => 1 ≤ sz ∧ sz ≤ 8 ∧ p.size = 0 ∧ fitsSigned d sz
  | .content ps cs none => (ps = 1 ∨ ps = 2) ∧ 1 ≤ cs ∧ cs ≤ 4 ∧ p.size = ps + cs
  | .content ps cs (some d) => (ps = 1 ∨ ps = 2) ∧ 1 ≤ cs ∧ cs ≤ 4 ∧ p.size = cs ∧ d < 256 ^ ps
  | .array (some ls) fixed (some (ks, st)) none =>
    1 ≤ ls ∧ ls ≤ 3 ∧ fixed ≤ 31 ∧ 1 ≤ ks ∧ ks ≤ 7 ∧ st < 256 ∧ p.size = ls + fixed + ks
  | .array none fixed (some (ks, st)) none =>
    fixed = 0 ∧ 1 ≤ ks ∧ ks ≤ 7 ∧ st < 256 ∧ p.size = ks
  | _ => False

theorem paddingProps_writable (n : Nat) : ∀ p ∈ paddingProps n, p.Writable := by
  intro p hp
  obtain ⟨hn, hk, h1, h16⟩ := paddingProps_spec n p hp
  unfold RawProp.Writable
  rw [hk, hn]
  exact ⟨Nat.zero_le _, rfl, h1, h16⟩

/-- The info byte of a property header: type nibble `t`, default flag `D`, three low bits `s`; the last two conjuncts
    are how a content address reads `s`. -/
theorem info_fields {x t D s : Nat} (hx : x = t * 16 + (D * 8 + s)) (ht : t < 16) (hD : D < 2) (hs : s < 8) :
    (UInt8.ofNat x).toNat / 16 = t ∧ (UInt8.ofNat x).toNat % 16 / 8 = D ∧ (UInt8.ofNat x).toNat % 16 % 8 = s ∧
      (UInt8.ofNat x).toNat % 16 / 4 % 2 = s / 4 ∧ (UInt8.ofNat x).toNat % 16 % 4 = s % 4 := by
  have hd : D * 8 + s < 16 := by omega
  obtain ⟨e1, e2⟩ := nat_fields hx hd
  obtain ⟨e3, e4⟩ := nat_fields (x := D * 8 + s) rfl hs
  rw [toNat_ofNat_u8, Nat.mod_eq_of_lt (by omega), e1, e2, e3, e4, ← Nat.mod_mul_right_div_self _ 4 2,
    ← Nat.mod_mod_of_dvd (D * 8 + s) (by decide : 4 ∣ 8), e4]
  exact ⟨rfl, rfl, rfl, rfl, rfl⟩

namespace RawProp
variable {rest : Bytes}

/-- `hx` lists the summands in the order `RawProp.encode` writes them, so that a caller proves it by `rfl`. -/
theorem decode_int_written {x t D sz : Nat} (hx : x = t * 16 + (sz - 1) + D * 8) (ht : t = 2 ∨ t = 3)
    (hD : D < 2) (h1 : 1 ≤ sz) (h8 : sz ≤ 8) :
    decode (UInt8.ofNat x :: rest) =
      if D = 1 then
        (takeLE rest sz).bind fun v => (takePString v.2).bind fun y =>
          .ok (⟨0, y.1, if t = 2 then .uint sz (some v.1) else .sint sz (some (signExtend v.1 sz))⟩, y.2)
      else (takePString rest).bind fun y => .ok (⟨sz, y.1, if t = 2 then .uint sz none else .sint sz none⟩, y.2) := by
  obtain ⟨e1, e2, e3, -⟩ := info_fields (x := x) (t := t) (D := D) (s := sz - 1) (by omega) (by omega) hD (by omega)
  rw [decode_int (e1 ▸ ht)]
  simp only [e1, e2, e3, Nat.sub_add_cancel h1]

theorem decode_content_written {x D ps cs : Nat} (hx : x = 16 + (cs - 1) + (if ps = 2 then 4 else 0) + D * 8)
    (hD : D < 2) (hps : ps = 1 ∨ ps = 2) (h1 : 1 ≤ cs) (h4 : cs ≤ 4) :
    decode (UInt8.ofNat x :: rest) =
      if D = 1 then
        (takeLE rest ps).bind fun v => (takePString v.2).bind fun y =>
          .ok (⟨cs, y.1, .content ps cs (some (v.1 % 65536))⟩, y.2)
      else (takePString rest).bind fun y => .ok (⟨cs + ps, y.1, .content ps cs none⟩, y.2) := by
  have hc : cs - 1 < 4 ∧ cs - 1 + 1 = cs := by omega
  have hp : ps - 1 < 2 ∧ ps - 1 + 1 = ps ∧ (if ps = 2 then 4 else 0) = (ps - 1) * 4 := by
    rcases hps with rfl | rfl <;> decide
  rw [hp.2.2] at hx
  generalize cs - 1 = c at *
  generalize ps - 1 = P at *
  obtain ⟨e1, e2, -, e4, e5⟩ := info_fields (x := x) (t := 1) (D := D) (s := P * 4 + c) (by omega)
    (by decide) hD (by omega)
  obtain ⟨e6, e7⟩ := nat_fields (x := P * 4 + c) rfl hc.1
  rw [decode_content e1]
  simp only [e2, e4, e5, e6, e7, hc.2, hp.2.1]

/-- an array with a value store and no default: the info byte holds the width `ls` of the length field (0: none), the
    next byte is `ks * 32 + fixed` -/
theorem decode_array_written {x ls fixed ks st : Nat} (hx : x = 80 + ls) (hl : ls ≤ 3) (hf : fixed ≤ 31)
    (hk1 : 1 ≤ ks) (hk7 : ks ≤ 7) (hst : st < 256) :
    decode (UInt8.ofNat x :: UInt8.ofNat (ks * 32 + fixed) :: UInt8.ofNat st :: rest) =
      (takePString rest).bind fun y =>
        .ok (⟨ls + fixed + ks, y.1, .array (if ls = 0 then none else some ls) fixed (some (ks, st)) none⟩, y.2) := by
  obtain ⟨e1, e2, -, -, e5⟩ := info_fields (x := x) (t := 5) (D := 0) (s := ls) (by omega) (by decide) (by decide)
    (by omega)
  obtain ⟨e6, e7⟩ := nat_fields (x := ks * 32 + fixed) rfl (Nat.lt_succ_of_le hf)
  have hc : (UInt8.ofNat (ks * 32 + fixed)).toNat = ks * 32 + fixed := by
    rw [toNat_ofNat_u8, Nat.mod_eq_of_lt (by omega)]
  have hs : (UInt8.ofNat st).toNat = st := by rw [toNat_ofNat_u8, Nat.mod_eq_of_lt hst]
  rw [decode_array e1]
  simp only [e2, e5, hc, e6, e7, Nat.mod_eq_of_lt (Nat.lt_succ_of_le hl), ne_eq, Nat.ne_of_gt hk1, not_false_eq_true,
    if_true, takeLE_one, hs, Outcome.bind_ok, show ¬ (0 = 1) by decide, if_false]

end RawProp
open RawProp

/-- The widths stay variables: the info byte is taken apart once (`info_fields`), each kind is read by the equation of
    `RawProp.decode` for its type nibble, and `omega` sees no division. -/
theorem rawProp_roundtrip (p : RawProp) (rest : Bytes) (hw : p.Writable) :
    RawProp.decode (p.encode ++ rest) = .ok (p, rest) := by
  obtain ⟨size, name, kind⟩ := p
  obtain ⟨hn, hw⟩ := hw
  simp only at hn hw
  cases kind with
  | padding =>
    obtain ⟨rfl, h1, h16⟩ := hw
    have hb : (UInt8.ofNat (size - 1)).toNat = size - 1 := by rw [toNat_ofNat_u8, Nat.mod_eq_of_lt (by omega)]
    obtain ⟨e1, e2⟩ := nat_fields (x := size - 1) (hi := 0) (B := 16) (Nat.zero_add _).symm (by omega)
    rw [RawProp.encode, List.cons_append, decode_padding (by rw [hb, e1]), hb, e2, Nat.sub_add_cancel h1]
    rfl
  | variantId =>
    simp only at hw; subst hw
    rw [RawProp.encode, List.cons_append, decode_variantId (by decide), takePString_encode _ _ hn]
    rfl
  | uint sz dflt =>
    cases dflt with
    | none =>
      obtain ⟨h1, h8, rfl⟩ := hw
      rw [RawProp.encode, List.cons_append, decode_int_written (t := 2) (D := 0) (by rfl) (.inl rfl) (by decide) h1 h8,
        if_neg (by decide), takePString_encode _ _ hn]
      rfl
    | some d =>
      obtain ⟨h1, h8, rfl, hd⟩ := hw
      rw [RawProp.encode, List.cons_append, decode_int_written (t := 2) (D := 1) (by rfl) (.inl rfl) (by decide) h1 h8,
        if_pos rfl, List.append_assoc, takeLE_leBytes, Outcome.bind_ok, takePString_encode _ _ hn,
        Nat.mod_eq_of_lt hd]
      rfl
  | sint sz dflt =>
    cases dflt with
    | none =>
      obtain ⟨h1, h8, rfl⟩ := hw
      rw [RawProp.encode, List.cons_append, decode_int_written (t := 3) (D := 0) (by rfl) (.inr rfl) (by decide) h1 h8,
        if_neg (by decide), takePString_encode _ _ hn]
      rfl
    | some d =>
      obtain ⟨h1, h8, rfl, hd⟩ := hw
      rw [RawProp.encode, List.cons_append, decode_int_written (t := 3) (D := 1) (by rfl) (.inr rfl) (by decide) h1 h8,
        if_pos rfl, List.append_assoc, takeLE_leBytesInt, Outcome.bind_ok, takePString_encode _ _ hn]
      simp only [Outcome.bind_ok, sint_roundtrip d sz h1 h8 hd]
      rfl
  | content ps cs dflt =>
    cases dflt with
    | none =>
      obtain ⟨hps, h1, h4, rfl⟩ := hw
      rw [RawProp.encode, List.cons_append, decode_content_written (D := 0) (by rfl) (by decide) hps h1 h4,
        if_neg (by decide), takePString_encode _ _ hn, Nat.add_comm]
      rfl
    | some d =>
      obtain ⟨hps, h1, h4, rfl, hd⟩ := hw
      have hd2 : d < 65536 := Nat.lt_of_lt_of_le hd (Nat.pow_le_pow_right (by decide) (show ps ≤ 2 by omega))
      rw [RawProp.encode, List.cons_append, decode_content_written (D := 1) (by rfl) (by decide) hps h1 h4,
        if_pos rfl, List.append_assoc, takeLE_leBytes, Outcome.bind_ok, takePString_encode _ _ hn,
        Nat.mod_eq_of_lt hd, Nat.mod_eq_of_lt hd2]
      rfl
  | array lenSize fixed dep dflt =>
    cases dflt with
    | some x => cases lenSize <;> cases dep <;> simp at hw
    | none =>
      cases dep with
      | none => cases lenSize <;> simp at hw
      | some kst =>
        obtain ⟨ks, st⟩ := kst
        rw [RawProp.encode]
        simp only [List.cons_append, List.nil_append]
        cases lenSize with
        | none =>
          obtain ⟨rfl, hk1, hk7, hst, rfl⟩ := hw
          rw [decode_array_written (ls := 0) (by rfl) (by decide) (by decide) hk1 hk7 hst,
            takePString_encode _ _ hn, Nat.zero_add]
          rfl
        | some ls =>
          obtain ⟨hl1, hl3, hfx, hk1, hk7, hst, rfl⟩ := hw
          rw [decode_array_written (by rfl) hl3 hfx hk1 hk7 hst, takePString_encode _ _ hn,
            if_neg (Nat.ne_of_gt hl1)]
          rfl
  | deportedInt sg sz st id => simp at hw

end Jubako
