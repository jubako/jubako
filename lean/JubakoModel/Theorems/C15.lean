/-
C15 — references between entries resolve to the referenced entry's final position.
-/
import JubakoModel.Lemmas.MultiStore
import JubakoModel.Lemmas.DirFile
import JubakoModel.Lemmas.FuncsStats
import JubakoModel.Lemmas.FuncsEntry
import JubakoModel.Lemmas.FuncsRefs

namespace Jubako

/-- **Handles and references**, for every reference graph and every outcome of the sort passes:
    once `finalize` has run, (1) the handle returned when entry `e` was added reports `e`'s final
    position; (2) a property of any entry bound to entry `t` reads — both when columns are sized
    and when entries are serialised, since no step runs in between — `t`'s final position; this
    holds for forward, backward and self references and chains alike, because it does not depend
    on who refers to whom. -/
theorem c15_refs (order0 : List Nat) (cells0 : Cells) (passes : List (List Nat))
    (refs : Nat → Option Nat) :
    let s := (FinSt.mk order0 cells0).run (finalizeSteps passes)
    let final := passes.getLastD order0
    (∀ e, s.cells e = final.idxOf e) ∧
    (∀ e t, refs e = some t → refValue s.cells t = final.idxOf t) := by
  rw [FinSt.run_finalizeSteps]
  exact ⟨fun _ => rfl, fun _ _ _ => rfl⟩

/-- positions of distinct entries of the final order are distinct and below the entry count -/
theorem c15_positions (final : List Nat) (hn : final.Nodup) (e : Nat) (he : e ∈ final) :
    final.idxOf e < final.length ∧ final[final.idxOf e]? = some e := by
  have h := List.idxOf_lt_length_iff.mpr he
  exact ⟨h, by simp [List.getElem?_eq_getElem h]⟩

/-- the reference column is sized from the stored positions: every stored reference fits the
    column width `needed_bytes(max position)` -/
theorem c15_width (positions : List Nat) (p : Nat) (hp : p ∈ positions) :
    leNat (leBytes p (neededBytes (listMax positions))) = p :=
  uint_roundtrip positions p hp

/-! ### File level

`d.finalize passes` is what `EntryStore::finalize` and the serialisation make of the writer's input
with deferred values (`DirRefIn`, Model/Refs.lean) for an arbitrary outcome `passes` of the sort
passes (empty: unsorted store). -/

/-- **References at file level.**  For every input with deferred values, every outcome of the sort
    passes whose final order is a permutation of the entries, provided the finalised input is
    well formed and within the format limits (as in `c02_file_roundtrip`): for every entry `e`
    (by insertion number)
    * the handle returned by `add_entry` reports `pos`, the position of `e` in the final order;
    * decoding entry `pos` out of the *bytes of the written pack* gives `e`'s variant and values,
      where every reference to an entry `t` reads as the final position of `t` — forward,
      backward, self references and chains alike, sorted or not. -/
theorem c15_file_refs (H : Bytes → Bytes) (vendor uuid freeData : Bytes) (d : DirRefIn)
    (passes : List (List Nat))
    (hperm : (d.finalOrder passes).Perm (List.range d.entries.length))
    (hwf : (d.finalize passes).WF) (hl : (d.finalize passes).Limits H vendor uuid freeData)
    (e : Nat) (he : e < d.entries.length) :
    let pos := (d.finalOrder passes).idxOf e
    d.boundOf passes e = pos ∧ pos < d.entries.length ∧
    dirGetEntry (dirPackWrite H vendor uuid freeData (d.finalize passes)) 0 pos =
      .ok (expectedEntry d.schema (d.entries[e].resolve (fun t => (d.finalOrder passes).idxOf t))) := by
  obtain ⟨hpos, hent⟩ := (d.finalize_entries passes hperm).2 e he
  obtain ⟨hi, h2⟩ := List.getElem?_eq_some_iff.1 hent
  refine ⟨d.boundOf_eq passes e, hpos, ?_⟩
  rw [dirGetEntry_dirPackWrite H vendor uuid freeData _ hwf hl _ hi, h2]
  rfl

/-- … in particular the `j`-th value of the stored entry, when it was given as a reference to the
    entry added as number `t`, is the unsigned integer `final position of t` -/
theorem c15_file_ref_value (d : DirRefIn) (passes : List (List Nat)) (e j t : Nat)
    (he : e < d.entries.length) (hj : d.entries[e].values[j]? = some (.ref t)) :
    (d.entries[e].resolve (fun x => (d.finalOrder passes).idxOf x)).values[j]? =
      some (.u ((d.finalOrder passes).idxOf t)) := by
  simp [EntryRefIn.resolve, hj, ValIn.resolve, refValue]

/-- non-vacuity: three entries, a sort that reverses them, self / forward / backward references -/
example :
    let s := (FinSt.mk [0, 1, 2] (fun _ => 0)).run (finalizeSteps [[2, 1, 0]])
    s.cells 0 = 2 ∧ s.cells 1 = 1 ∧ s.cells 2 = 0 ∧ refValue s.cells 2 = 0 := by
  decide

/-! ### Several entry stores in one directory pack

`MSt.init` starts every cell at its entry's insertion index (what `add_entry` hands out), where
`DirRefIn.finalize` above starts from 0; the first renumbering of `finalizeSteps` forgets either
(`FinSt.run_finalizeSteps`). -/

/-- **References across entry stores** (the schedule of the repaired `DirectoryPackCreator::finalize`:
    every store is given its final order, then every store sizes its columns, then the stores are
    written).  For any number of stores, any number of entries, any outcome of every sort pass of
    every store: the cells that every sizing pass reads, the cells that every serialisation reads and
    the cells the handles report afterwards are the same, and they hold the final position of every
    entry of every store — whatever refers to whatever, within a store or across stores. -/
theorem c15_multi_store (stores : List StoreIn) :
    let s := (MSt.init stores).run stores (finalizeRepaired stores.length)
    (∀ p ∈ s.sizedAt, ∀ i, i < stores.length → ∀ e, p.2 i e = finalPos stores i e) ∧
    (∀ p ∈ s.writtenAt, ∀ i, i < stores.length → ∀ e, p.2 i e = finalPos stores i e) ∧
    (∀ i, i < stores.length → ∀ e, s.cells i e = finalPos stores i e) := by
  have hs := SortedUpTo.all stores stores.length (Nat.le_refl _)
  -- every sizing pass and every serialisation reads the cells the sort phase left
  simp only [finalizeRepaired, MSt.run_append, MSt.run_size, MSt.run_write, hs.sized, hs.written,
    List.nil_append, List.mem_map]
  refine ⟨?_, ?_, fun i hi e => hs.done i hi hi e⟩ <;>
  · rintro p ⟨_, _, rfl⟩ i hi e
    exact hs.done i hi hi e

/-- **The pinned schedule (sort and size store after store) does not have this property** — defect
    D13, repaired by `/repo` 7dd7146: with a one-entry store registered before a two-entry store whose
    sort reverses it, the first store's sizing pass reads position 0 for an entry whose final position
    is 1.  (A witness in the model of what `./check C15` found on the real code with 256 and 649
    entries.) -/
theorem c15_multi_store_pinned_schedule_fails :
    let stores := [StoreIn.mk 1 [], StoreIn.mk 2 [[1, 0]]]
    let s := (MSt.init stores).run stores (finalizePinned stores.length)
    (s.sizedAt.head?.map (fun p => p.2 1 0)) = some 0 ∧ finalPos stores 1 0 = 1 := by
  decide

/-- non-vacuity of `c15_multi_store`: the same two stores under the repaired schedule — the sizing
    pass of the first store reads the final position -/
example :
    let stores := [StoreIn.mk 1 [], StoreIn.mk 2 [[1, 0]]]
    let s := (MSt.init stores).run stores (finalizeRepaired stores.length)
    (s.sizedAt.head?.map (fun p => p.2 1 0)) = some 1 := by
  decide

/-- **A deferred value is read when the source sizes and when it serialises, and then treated exactly like a plain
    value**: in `Property::process` (statistics) and in the per-key body of `Properties::serialize_entry`, both
    translated on every run, a `Word` — given as the value `value.get()` returns at that moment — is handled
    as the plain integer of that value, for every property kind.  This is the step `EntryRefIn.resolve` of the
    writer model (a reference replaced by the value of its target's cell) rests on. -/
theorem c15_words_follow_source :
    (∀ k w v, Generated.entryPropertyWrites k (.unsignedWord w) v = Generated.entryPropertyWrites k (.unsigned w) v) ∧
    (∀ k w v, Generated.entryPropertyWrites k (.signedWord w) v = Generated.entryPropertyWrites k (.signed w) v) ∧
    (∀ p w, Generated.schemaPropertyProcess p (.unsignedWord w) = Generated.schemaPropertyProcess p (.unsigned w)) ∧
    (∀ p w, Generated.schemaPropertyProcess p (.signedWord w) = Generated.schemaPropertyProcess p (.signed w)) := by
  refine ⟨?_, ?_, ?_, ?_⟩
  · intro k w v; cases k <;> rfl
  · intro k w v; cases k <;> rfl
  · intro p w; cases p <;> rfl
  · intro p w; cases p <;> rfl

/-- and a reference written under an unsigned property of width `sz` is the little-endian image of the cell -/
example : (Generated.entryPropertyWrites (.unsignedInt 2 none [114]) (.unsignedWord 513) none).map writesBytes = some [1, 2] := by
  decide

/-- **The step sequence `c15_refs` is proved over is the source's**: the statements of `EntryStore::sort`
    extracted from `creator/directory_pack/entry_store.rs` on every run — every `par_sort_unstable_by` and every
    `set_entry_idx`, in textual order, nothing else permuting or numbering the entries — are a renumbering, then
    (sort, renumbering) under the sort keys, then (sort, renumbering) in the retry loop: the kinds of
    `finalizeSteps`, in which every sort pass is immediately followed by a renumbering. -/
theorem c15_sort_steps_are_source_steps (p q : List Nat) :
    (finalizeSteps [p, q]).map FinStep.kind = Generated.entryStoreSortShape ∧
    Generated.entryStoreSortShape.head? = some .setIdx ∧
    (∀ i, Generated.entryStoreSortShape[i]? = some SortStmt.sort → Generated.entryStoreSortShape[i + 1]? = some SortStmt.setIdx) :=
  ⟨gen_entryStoreSortShape p q, sortShape_renumbers_after_every_sort⟩

/-- **All stores are sorted before any is sized, as in the source**: the loops of
    `DirectoryPackCreator::finalize` extracted on every run expand to the schedule `finalizeRepaired` that
    `c15_multi_store` is stated over. -/
theorem c15_finalize_schedule_is_source_schedule (k : Nat) :
    (Generated.directoryFinalizePhases.map (MPhase.acts k)).flatten ++ (List.range k).map MAct.write = finalizeRepaired k :=
  gen_directoryFinalizePhases k

end Jubako
