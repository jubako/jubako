/-
C03 — sorted stores follow the reader's order; lookup finds exactly what was written:
`RangeTrait::find` (Lemmas/Search.lean), and the writer's order on array keys (inline prefix, value
id, length) being the reader's bytewise order, for every key set and both store kinds
(Lemmas/Order.lean).
-/
import JubakoModel.Lemmas.Search
import JubakoModel.Lemmas.DirFile
import JubakoModel.Lemmas.FuncsSearch
import JubakoModel.Lemmas.FuncsOrder

namespace Jubako

/-- **Binary search never lies**: whatever the comparator, an answer is inside the window and
    carries verdict `Equal`. -/
theorem c03_find_binary_sound (cmp : Nat → Ordering) (count i : Nat)
    (h : findOrdered cmp count = some i) : i < count ∧ cmp i = .eq :=
  findOrdered_sound cmp count i h

/-- **Lookup in a sorted window finds a key exactly when one was written**: for any order `ord`
    satisfying the two transitivity laws (`OrdLaws`), any list of keys stored in non-decreasing
    order, any window `[off, off+cnt)` of it and any probe. -/
theorem c03_find_binary {α} (ord : α → α → Ordering) (hl : OrdLaws ord) (keys : List α) (dflt probe : α)
    (hs : keys.Pairwise (fun a b => ord a b ≠ .gt)) (off cnt : Nat) (h : off + cnt ≤ keys.length) :
    (∃ i, i < cnt ∧ ord (keys.getD (off + i) dflt) probe = .eq) ↔
      (findOrdered (fun i => probeCmp ord keys dflt probe (off + i)) cnt).isSome :=
  (findOrdered_isSome_iff _ _ ((probeCmp_mono ord hl keys dflt probe hs).window off cnt h)).symm

/-- the linear scan finds the first entry carrying the key, or nothing when none does -/
theorem c03_find_linear (cmp : Nat → Ordering) (count i : Nat) :
    findLinear cmp count = some i ↔ (i < count ∧ cmp i = .eq ∧ ∀ j, j < i → cmp j ≠ .eq) :=
  findLinear_some_iff cmp count i

/-- **The two search modes agree** on every window of a sorted store: both succeed or both fail,
    and with unique keys they return the same index. -/
theorem c03_find_agree {α} (ord : α → α → Ordering) (hl : OrdLaws ord) (keys : List α) (dflt probe : α)
    (hs : keys.Pairwise (fun a b => ord a b ≠ .gt)) (off cnt : Nat) (h : off + cnt ≤ keys.length)
    (hu : ∀ i j, i < cnt → j < cnt → ord (keys.getD (off + i) dflt) probe = .eq →
      ord (keys.getD (off + j) dflt) probe = .eq → i = j) :
    findOrdered (fun i => probeCmp ord keys dflt probe (off + i)) cnt =
      findLinear (fun i => probeCmp ord keys dflt probe (off + i)) cnt :=
  find_agree _ cnt ((probeCmp_mono ord hl keys dflt probe hs).window off cnt h) hu

/-- non-vacuity: the numeric order satisfies the laws, and a concrete sorted window is searched -/
example : OrdLaws (fun (a b : Nat) => compare a b) := ordLaws_nat
example : findOrdered (fun i => probeCmp (fun (a b : Nat) => compare a b) [1, 4, 9, 16, 25] 0 16 (1 + i)) 3 = some 2 := by
  decide

/-- **Value ids are monotone in byte order** after finalisation of a store, for every multiset of
    added values: ranks (indexed store) order exactly like the bytes … -/
theorem c03_ids_monotone_indexed (added : List Bytes) (x y : Bytes) (hx : x ∈ added) (hy : y ∈ added) :
    compare ((VStore.finalize true added).idOf x) ((VStore.finalize true added).idOf y) = lexCmp x y :=
  VStore.compare_idOf (VStore.finalize_strict true added) (VStore.finalize_indexed true added)
    ((VStore.mem_finalize true added x).mpr hx) ((VStore.mem_finalize true added y).mpr hy)

/-- … and byte offsets (plain store) never decrease, strictly increasing after a non-empty value
    (the empty value and the first non-empty one share offset 0; the array length then decides). -/
theorem c03_ids_monotone_plain (added : List Bytes) (x y : Bytes) (hx : x ∈ added) (hy : y ∈ added)
    (hxy : lexCmp x y = .lt) :
    (VStore.finalize false added).idOf x ≤ (VStore.finalize false added).idOf y ∧
    (x ≠ [] → (VStore.finalize false added).idOf x < (VStore.finalize false added).idOf y) := by
  have h := VStore.idOf_add_length_le (VStore.finalize_strict false added) (VStore.finalize_indexed false added)
    ((VStore.mem_finalize false added x).mpr hx) ((VStore.mem_finalize false added y).mpr hy) hxy
  refine ⟨by omega, fun hne => ?_⟩
  have := List.length_pos_iff.2 hne
  omega

/-- **The agreement that is never exercised by the test suite**: for every set of keys added to a
    value store (plain or indexed), every inline prefix length, and every two array keys whose
    rests were added to that store, the order the writer sorts by — (inline prefix bytes, value
    id, total length) — is the order the reader compares by — bytewise on the whole array. -/
theorem c03_writer_order_is_reader_order (indexed : Bool) (added : List Bytes) (fixed : Nat) (a b : Bytes)
    (ha : a.drop fixed ∈ added) (hb : b.drop fixed ∈ added) :
    writerArrCmp (VStore.finalize indexed added) fixed a b = lexCmp a b :=
  writerArrCmp_eq_lexCmp _ (VStore.finalize_strict indexed added) fixed a b
    ((VStore.mem_finalize indexed added _).2 ha) ((VStore.mem_finalize indexed added _).2 hb)

/-- the same for arrays without inline prefix in an indexed store (stored as the bare value id) -/
theorem c03_writer_order_indirect (added : List Bytes) (a b : Bytes) (ha : a ∈ added) (hb : b ∈ added) :
    writerIndirectCmp (VStore.finalize true added) a b = lexCmp a b :=
  c03_ids_monotone_indexed added a b ha hb

/-- the reader's `Array::cmp` walk over inline prefix then store bytes is the bytewise order -/
theorem c03_reader_walk (a b : Bytes) : arrayCmpWalk a b = lexCmp a b := arrayCmpWalk_eq_lexCmp a b

/-- **Stored order**: whatever order the (parallel, unstable) sort passes leave, an order accepted
    by the code's own post-check `windows(2).all(compare <= )` with the writer's comparator on a
    single array key is non-decreasing in the reader's order. -/
theorem c03_stored_order (indexed : Bool) (added : List Bytes) (fixed : Nat) (out : List Bytes)
    (hmem : ∀ a ∈ out, a.drop fixed ∈ added)
    (hchk : sortedCheck (writerArrCmp (VStore.finalize indexed added) fixed) out = true) :
    sortedCheck lexCmp out = true :=
  stored_order indexed added fixed out hmem hchk

/-- the bytewise order satisfies the laws binary search needs, so `c03_find_binary` and
    `c03_find_agree` apply to stores sorted on an array key -/
theorem c03_lexCmp_laws : OrdLaws lexCmp := ⟨lexCmp_lt_of_le_of_lt, lexCmp_gt_of_le_of_gt⟩

/-- **Stored order (C03) at file level.**  Let common property `k` be an array key (inline prefix
    `fixed`, value store `st`) and let the stored order pass the creator's own post-sort check with
    the writer's comparator on that key (`c03_stored_order`).  Then the keys the reader decodes
    from the written file at positions `0, 1, …` are exactly the written keys, and they are
    non-decreasing in the reader's bytewise order — the precondition of `c03_find_binary`. -/
theorem c03_file_sorted_readback (H : Bytes → Bytes) (vendor uuid freeData : Bytes) (d : DirIn)
    (hwf : d.WF) (hl : d.Limits H vendor uuid freeData) (k fixed st : Nat) (name : Bytes)
    (hp : d.schema.common[k]? = some ⟨name, .array fixed st⟩)
    (hchk : sortedCheck (writerArrCmp (d.stores.getD st vsDflt) fixed) (d.arrayKeys k) = true) :
    (∀ i (hi : i < d.entries.length), ∃ ev,
      dirGetEntry (dirPackWrite H vendor uuid freeData d) 0 i = .ok ev ∧
      ev.values[k]? = some (name, .arr ((d.arrayKeys k).getD i []))) ∧
    sortedCheck lexCmp (d.arrayKeys k) = true :=
  dirfile_sorted_readback H vendor uuid freeData d hwf hl k fixed st name hp hchk

/-- non-vacuity: `DirFileExample.input3`, a store sorted on an array key with duplicates -/
example := @DirFileExample.input3

/-! ### Ties to the source -/

/-- **`RangeTrait::find`, translated from `reader/directory_pack/range.rs` on every run
    (`Generated.rangeFind`), terminates for every comparator and every window, and is the model's
    `findOrdered` (when the comparator declares the range ordered) / `findLinear` (otherwise) on the
    comparator shifted by the window's offset** — so `c03_find_binary`, `c03_find_linear` and
    `c03_find_agree` speak about the loop that is in the source now. -/
theorem c03_find_is_source_find (cmpAt : Nat → Ordering) (ordered : Bool) (off count : Nat) :
    Generated.rangeFind cmpAt ordered off count =
      some (if ordered then findOrdered (fun i => cmpAt (off + i)) count
            else findLinear (fun i => cmpAt (off + i)) count) :=
  gen_rangeFind cmpAt ordered off count

/-- non-vacuity: the translated search on a three-entry window at offset 2 finds the middle entry in both modes -/
example : Generated.rangeFind (fun i => compare i 3) true 2 3 = some (some 1) ∧
          Generated.rangeFind (fun i => compare i 3) false 2 3 = some (some 1) := by decide

/-- **The writer's order on array keys that `c03_writer_order_is_reader_order` and `c03_stored_order`
    are about is the body of the creator's `Array::cmp` as translated from
    `creator/directory_pack/value.rs` on every run** (prefix bytes, then value id, then length). -/
theorem c03_writer_order_is_source_order (vs : VStore) (fixed : Nat) (a b : Bytes) :
    writerArrCmp vs fixed a b =
      Generated.writerArrayCmp (lexCmp (a.take fixed) (b.take fixed)) (vs.idOf (a.drop fixed)) (vs.idOf (b.drop fixed))
        a.length b.length :=
  gen_writerArrCmp vs fixed a b

end Jubako
