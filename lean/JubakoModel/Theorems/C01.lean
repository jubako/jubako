/-
C01 — stored content reads back byte-identical at the address returned on insertion.

At structure level, for the codecs involved, and on the bytes `contentPackWrite` writes.  The
correspondence check ties `contentPackWrite` / `contentGet` to the Rust writer and reader (`cp.encode`,
`cp.decode`).
-/
import JubakoModel.Lemmas.Verbatim
import JubakoModel.Lemmas.FuncsBytes
import JubakoModel.Lemmas.FuncsContent
import JubakoModel.Lemmas.FuncsParse
import JubakoModel.Lemmas.FuncsOpen
import JubakoModel.Lemmas.FuncsCluster

namespace Jubako

/-- the address returned by an insertion is the number of contents inserted before it -/
theorem c01_addr_is_position (s : Creator) (it : Item) : (s.add it).2 = s.infos.length := rfl

/-- … hence the k-th insertion of a sequence returns content id k -/
theorem c01_addr_seq (items : List Item) (it : Item) :
    ((Creator.init.addAll items).add it).2 = items.length := by
  exact (creatorInv_addAll items).infos_len

/-- **Every insertion sequence, every arrival order.**  After `finalize`, the pack holds exactly as
    many content infos as insertions, and for whatever order `arrival` in which the compression
    workers and the writer let the clusters land in the file, the i-th address denotes exactly the
    i-th inserted byte string (and the storage class decided for it). -/
theorem c01_roundtrip_structure (items : List Item) (arrival : List Cluster)
    (hp : ((Creator.init.addAll items).finalize).1.Perm arrival) :
    ((Creator.init.addAll items).finalize).2.length = items.length ∧
    ∀ i (_ : i < items.length),
      resolve arrival (((Creator.init.addAll items).finalize).2.getD i (0,0)) =
        some ((items.getD i ⟨[], false⟩).data, (items.getD i ⟨[], false⟩).comp) :=
  ⟨(creator_roundtrip items).1, creator_roundtrip_any_arrival items arrival hp.symm⟩

/-- what the 20/12-bit content-info packing and the cluster tail can represent is respected by
    every insertion sequence: blob indices fit 12 bits, clusters hold 1..4095 blobs, cluster ids are
    0..n-1 each used once -/
theorem c01_indices_fit (items : List Item) :
    let r := (Creator.init.addAll items).finalize
    (r.1.map (·.idx)).Nodup ∧ (∀ c ∈ r.1, c.idx < r.1.length) ∧
    (∀ c ∈ r.1, 1 ≤ c.blobs.length ∧ c.blobs.length ≤ Consts.maxBlobsPerCluster) ∧
    (∀ info ∈ r.2, info.2 < 4096) := creator_ids items

/-- content infos survive their 4-byte encoding for every index the creator can produce
    (cluster id < 2^20 is the format's limit: 2^20 clusters of ≥ 1 byte) -/
theorem c01_content_info_codec (c b : Nat) (hc : c < 2 ^ 20) (hb : b < 2 ^ 12) :
    contentInfoDecode (contentInfoEncode c b) = (c, b) := contentInfo_roundtrip c b hc hb

/-- **File level, every insertion sequence, every arrival order, every sound codec.**  The bytes
    of the content pack written for `items` — clusters laid out in whatever order `arrival` they
    reached the writer — read back, at address `i`, as exactly the `i`-th inserted byte string.
    Hypotheses are the format's own limits (see `stored_in_file` for the field each
    one comes from): compression byte ≤ 3; a non-compressing pack compresses nothing; fixed-size
    vendor/uuid/free-data; < 2^32 contents; ≤ 2^20 clusters; total data < 2^64; file < 2^48 bytes. -/
theorem c01_file_roundtrip (H : Bytes → Bytes) (codec : Codec) (hcodec : codec.Sound)
    (hbyte : codec.byte ≤ 3) (m : ContentPackMeta) (hm : m.WF)
    (items : List Item) (arrival : List Cluster)
    (hp : arrival.Perm ((Creator.init.addAll items).finalize).1)
    (hcomp : codec.byte = 0 → ∀ it ∈ items, it.comp = false)
    (hcount : items.length < 2 ^ 32) (hncl : arrival.length ≤ 2 ^ 20)
    (hdata : totalSize items < 2 ^ 64)
    (hsize : (contentPackWrite H codec m arrival ((Creator.init.addAll items).finalize).2).length < 2 ^ 48)
    (i : Nat) (hi : i < items.length) :
    contentGet codec.decompress'
        (contentPackWrite H codec m arrival ((Creator.init.addAll items).finalize).2) i =
      .ok (some (items[i]).data) :=
  contentGet_contentPackWrite hcodec ⟨hbyte, hm, hp, hcomp, hcount, hncl, hdata, hsize⟩ i hi

/-- **An address past the count answers "no such content"** — not an error, not foreign bytes. -/
theorem c01_file_past_end (H : Bytes → Bytes) (codec : Codec) (m : ContentPackMeta) (hm : m.WF)
    (items : List Item) (arrival : List Cluster)
    (hcount : items.length < 2 ^ 32) (hncl : arrival.length ≤ 2 ^ 20)
    (hsize : (contentPackWrite H codec m arrival ((Creator.init.addAll items).finalize).2).length < 2 ^ 48)
    (i : Nat) (hi : items.length ≤ i) :
    contentGet codec.decompress'
        (contentPackWrite H codec m arrival ((Creator.init.addAll items).finalize).2) i = .ok none :=
  contentGet_contentPackWrite_none H codec m hm items arrival hcount hncl hsize i hi

/-- the example pack is written in an arrival order that is not the hand-over order (the file-level
    theorems on it: Lemmas/Verbatim.lean) -/
example := @ContentFileExample.arrival_not_identity

/-- non-vacuity: a 3-item sequence mixing a raw and a compressed cluster, non-identity arrival -/
example :
    let items : List Item := [⟨[1, 2], false⟩, ⟨[3], true⟩, ⟨[], false⟩]
    let r := (Creator.init.addAll items).finalize
    r.1.Perm r.1.reverse ∧ r.1.reverse ≠ r.1 ∧
    resolve r.1.reverse (r.2.getD 1 (0,0)) = some ([3], true) := by
  decide

/-- **The creator model's split rule, the tail-width rule and the content-info packing are the bodies
    of `ClusterCreator::is_full`, `needed_bytes` and `ContentInfo::{serialize, parse}` as translated
    from the Rust source on every run** (Generated/Funcs.lean). -/
theorem c01_rules_are_source_rules :
    (∀ (c : Cluster) (size : Nat),
      c.isFull size = Generated.clusterIsFull c.blobs.length c.compressed c.dataSize size) ∧
    (∀ v, Generated.neededBytes v = some (neededBytes v)) ∧
    (∀ cluster blob, contentInfoEncode cluster blob = leBytes (Generated.contentInfoPack cluster blob % 2 ^ 32) 4) ∧
    (∀ bs, contentInfoDecode bs = Generated.contentInfoUnpack (leNat bs)) :=
  ⟨gen_clusterIsFull, gen_neededBytes, gen_contentInfoPack, gen_contentInfoUnpack⟩

/-- non-vacuity: the translated split rule closes a compressed cluster at 4 MiB and any cluster at 4095 blobs -/
example : Generated.clusterIsFull 1 true 4194304 1 = true ∧ Generated.clusterIsFull 1 false 4194304 1 = false ∧
          Generated.clusterIsFull 4095 false 0 0 = true ∧ Generated.clusterIsFull 0 true 0 5000000 = false := by decide

/-- **Reading a content follows the source's order of checks and lookups**: `contentGet` of the reader model is
    `ContentPack::get_content` as translated from `reader/content_pack/mod.rs` on every run, applied to the
    model's three lookups (content-info entry, cluster, blob): an index at or beyond the content count is
    answered `None` before anything else is read; a cluster index at or beyond the cluster count is a format
    error; errors of the lookups are passed on unchanged. -/
theorem c01_get_content_is_source_get_content (decompress : Nat → Bytes → Option Bytes) (f : Bytes) (i : Nat) :
    contentGet decompress f i =
      (contentOpen f).bind fun o =>
        Generated.contentPackGetContent o.2.contentCount o.2.clusterCount (modelInfoAt f o.2) (modelGetCluster f o.2)
          (modelGetBytes decompress f) i :=
  gen_contentGet decompress f i

/-- **The address a content gets and the offsets its cluster records are the source's**:
    `ClusterCreator::add_content` (`creator/content_pack/cluster.rs`) translated on every run, applied to the
    end offsets of a cluster of the creator model, returns (cluster index, number of blobs so far) — the address
    `Creator.add` records — and the end offsets of the cluster with the new blob appended. -/
theorem c01_cluster_step_is_source_step (c : Cluster) (d : Bytes) (h : c.blobs.length < Consts.maxBlobsPerCluster) :
    Generated.clusterAddContent (endOffsets c.blobs 0) c.idx d.length =
      some (endOffsets (c.blobs ++ [d]) 0, (c.idx, c.blobs.length)) :=
  gen_clusterAddContent c d h

/-- **A content pack is opened as the source opens it**: `contentOpen` (the first step of `contentGet`) is
    `ContentPack::new` as translated from `reader/content_pack/mod.rs` on every run: pack header of kind
    "content", content-pack header, then the content-info table (4 bytes per content) and the cluster-pointer
    table (8 bytes per cluster), each read as one checked block. -/
theorem c01_content_open_is_source_open (f : Bytes) :
    contentOpen f =
      Generated.contentPackNew ((readBlock f 0 60).bind fun hd => PackHeader.decode hd)
        ((readBlock f 64 60).bind fun cb => ContentHeader.decode cb)
        (fun w pos count => readBlock f pos (w * count)) :=
  gen_contentOpen f

/-- **The tail of a cluster — where every blob starts and ends — is decoded as the source decodes it**:
    `ClusterBuilder::parse` translated on every run (the offsets loop included: first offset 0 without a read,
    the others read in the header's width and bounded by the data size, the data size last) equals
    `ClusterTail.decode` on every tail whose header passes the model's checks and announces at least one blob. -/
theorem c01_cluster_tail_parser_is_source_parser (bs : Bytes) (c : Nat)
    (h4 : ¬ bs.length < 4) (hcomp : ¬ (bs.getD 0 0).toNat > 3)
    (hosz : ¬ ((bs.getD 1 0).toNat = 0 ∨ (bs.getD 1 0).toNat > 8)) (hcount : leNat (slice bs 2 2) = c + 1) :
    ((Generated.clusterBuilderParse (bs.drop 4) ((bs.getD 0 0).toNat, (bs.getD 1 0).toNat, c + 1)).map'
        (fun r => (r.1.1.1, r.1.1.2.1, r.1.1.2.2, r.1.2))).Same
      ((ClusterTail.decode bs).map' (fun t => (0 :: t.offsets ++ [t.dataSize], t.dataSize, t.comp, t.rawSize))) :=
  gen_clusterBuilderParse bs c h4 hcomp hosz hcount

/-- **… and so is the header in front of it**: `ClusterHeader::parse` (with `CompressionType::parse`) translated on
    every run, followed by the translated rest of `ClusterBuilder::parse`, equals `ClusterTail.decode` on every tail
    announcing at least one blob: compression byte above 3, offset width outside 1..8 and tails shorter than the header
    are format errors in both, with no hypothesis on the header left. -/
theorem c01_cluster_header_and_tail_is_source_parser (bs : Bytes) (c : Nat) (hcount : leNat (slice bs 2 2) = c + 1) :
    (((Generated.clusterHeaderParse bs).bind fun r =>
        Generated.clusterBuilderParse r.2 (srcCompressionToNat r.1.1, r.1.2.1, r.1.2.2)).map'
        (fun r => (r.1.1.1, r.1.1.2.1, r.1.1.2.2, r.1.2))).Same
      ((ClusterTail.decode bs).map' (fun t => (0 :: t.offsets ++ [t.dataSize], t.dataSize, t.comp, t.rawSize))) :=
  gen_clusterTailParse bs c hcount

/-- the hypothesis is satisfiable and the decoding is a value: an uncompressed cluster of two blobs, offsets on
    one byte (raw size 5, data size 5, second blob starts at 2) -/
example : leNat (slice [0, 1, 2, 0, 5, 5, 2] 2 2) = 1 + 1 ∧
    (ClusterTail.decode [0, 1, 2, 0, 5, 5, 2]).map' (fun t => (t.offsets, t.dataSize, t.comp)) = .ok ([2], 5, 0) :=
  ⟨by decide, rfl⟩

end Jubako
