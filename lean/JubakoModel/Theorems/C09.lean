/-
C09 — creation is all-or-nothing at the destination path.
-/
import JubakoModel.Lemmas.AtomicFs
import JubakoModel.Lemmas.BasicCreatorFs
import JubakoModel.Lemmas.FuncsFs

namespace Jubako

/-- a crash point is a prefix: running a prefix then the rest is running the whole trace -/
theorem c09_crash_is_prefix (fs : FSt) (t : List FsOp) (k : Nat) :
    (fs.run (t.take k)).run (t.drop k) = fs.run t := by
  rw [← FSt.run_append, List.take_append_drop]

/-- **All-or-nothing at every final path**, for every disciplined trace, every crash point `k`
    (the process dies after the k-th file-system operation) and every initial file system: a
    non-temporary path holds what it held before the run, or the *complete* content of the
    temporary that was renamed onto it — every write that temporary receives in the whole run, never
    a partial file. -/
theorem c09_all_or_nothing {isTemp : FPath → Bool} {entry : FPath} {old : FSt} {t : List FsOp}
    (hd : Discipline isTemp entry (old.files.map (·.1)) t = true) (k : Nat) (d : FPath)
    (hdt : isTemp d = false) :
    (old.run (t.take k)).get d = old.get d ∨
      ∃ src, (src, d) ∈ renamesOf (t.take k) ∧ (old.run (t.take k)).get d = some (allWritesTo src t) :=
  atomic_final hd k d hdt

/-- **The entry-point never appears before the pack files it refers to are complete**: at any
    crash point at which the entry-point has already been renamed, every rename of the whole run
    has already happened and every final path holds its complete content. -/
theorem c09_entry_point_last {isTemp : FPath → Bool} {entry : FPath} {old : FSt} {t : List FsOp}
    (hd : Discipline isTemp entry (old.files.map (·.1)) t = true) (k : Nat) (src : FPath)
    (h : (src, entry) ∈ renamesOf (t.take k)) :
    ∀ s' d', (s', d') ∈ renamesOf t →
      (s', d') ∈ renamesOf (t.take k) ∧ (old.run (t.take k)).get d' = some (allWritesTo s' t) :=
  entry_last hd k src h

/-- a temporary receives all its writes before it is renamed -/
theorem c09_writes_before_rename {isTemp : FPath → Bool} {entry : FPath} {old : FSt} {t : List FsOp}
    (hd : Discipline isTemp entry (old.files.map (·.1)) t = true) :
    ∀ (i j : Nat) (src dst : FPath) (tok : Nat),
      t[i]? = some (FsOp.rename src dst) → t[j]? = some (FsOp.write src tok) → j < i :=
  writes_before_rename hd

/-- **Error return**: a run that ends with every temporary unlinked (what `NamedTempFile::drop`
    does on the error path) leaves no temporary file of this run behind. -/
theorem c09_error_return_clean {isTemp : FPath → Bool} {entry : FPath} {old : FSt} {t : List FsOp}
    (hd : Discipline isTemp entry (old.files.map (·.1)) t = true) (dsf : DiscSt)
    (hrun : discRun isTemp entry (old.files.map (·.1)) ⟨[], [], [], false⟩ t = some dsf)
    (hfin : dsf.live = []) :
    ∀ p, isTemp p = true → p ∈ dsf.created → (old.run t).get p = none :=
  no_stray_temps hd dsf hrun hfin

/-- every prefix of a disciplined trace is disciplined (a crash never turns a good run into a bad
    one) -/
theorem c09_prefix_disciplined (isTemp : FPath → Bool) (entry : FPath) (oldPaths : List FPath)
    (t : List FsOp) (k : Nat) (h : Discipline isTemp entry oldPaths t = true) :
    Discipline isTemp entry oldPaths (t.take k) = true := discipline_take isTemp entry oldPaths t k h

/-! ### The runs of `BasicCreator` (Model/BasicCreatorFs.lean)

`creationTrace m n w` is the file-system trace of a whole creation through the high-level creator
in packaging `m`, with temporaries and final names `n` and **any** number of writes `w` at each
stage.  The correspondence check records the real trace of every run with `strace` and requires it
to be an instance of `creationTrace` (`isCreationInstance`: same creates / renames in the same
order up to the names of the temporaries, every write going to the file being built). -/

/-- **Every creation run is disciplined**, in every packaging, for every amount of data written at
    every stage and every choice of fresh temporary names -/
theorem c09_modes {isTemp : FPath → Bool} {oldPaths : List FPath} (m : ConcatMode) (n : FinNames)
    (w : FinWrites) (hn : NamesOk isTemp oldPaths n) :
    Discipline isTemp n.entry oldPaths (creationTrace m n w) = true :=
  creationTrace_disciplined m n w hn

/-- **Process death at any point of a creation run** (after any `k` file-system operations): the
    destination holds what it held before, or the complete new file; and if it holds the new file,
    every other file of the run (`.jbkc`, `.jbkd`) has been renamed and is complete. -/
theorem c09_creation_crash {isTemp : FPath → Bool} {old : FSt} (m : ConcatMode) (n : FinNames)
    (w : FinWrites) (hn : NamesOk isTemp (old.files.map (·.1)) n) (k : Nat) :
    let t := creationTrace m n w
    let fs := old.run (t.take k)
    (fs.get n.entry = old.get n.entry ∨
      ∃ src, (src, n.entry) ∈ renamesOf (t.take k) ∧ fs.get n.entry = some (allWritesTo src t)) ∧
    (∀ src, (src, n.entry) ∈ renamesOf (t.take k) →
      ∀ s' d', (s', d') ∈ renamesOf t → fs.get d' = some (allWritesTo s' t)) := by
  have hd := creationTrace_disciplined m n w hn
  exact ⟨atomic_final hd k n.entry hn.e, fun src h s' d' h' => (entry_last hd k src h s' d' h').2⟩

/-- **I/O error at any point of a creation run** (the first `k` operations succeeded, then
    `finalize` returns the error and the live temporaries are dropped): the destination holds what
    it held before or the complete new file, and no temporary of the run remains. -/
theorem c09_creation_error_return {isTemp : FPath → Bool} {old : FSt} (m : ConcatMode) (n : FinNames)
    (w : FinWrites) (hn : NamesOk isTemp (old.files.map (·.1)) n) (k : Nat) :
    let t := creationTrace m n w
    let fs := old.run (errorTrace t k)
    (fs.get n.entry = old.get n.entry ∨
      ∃ src, (src, n.entry) ∈ renamesOf (t.take k) ∧ fs.get n.entry = some (allWritesTo src t)) ∧
    (∀ p, isTemp p = true → p ∈ createdOf (t.take k) → fs.get p = none) := by
  have hd := creationTrace_disciplined m n w hn
  intro t fs
  refine ⟨?_, errorTrace_no_temps k hd⟩
  rw [errorTrace_final old t k n.entry hn.e hd]
  exact atomic_final hd k n.entry hn.e

/-- non-vacuity: the names the harness uses satisfy the hypotheses; the three traces are distinct -/
example : NamesOk exIsTemp [] (FinNames.ofEntry "out.jbk" ".tmpA" ".tmpB" ".tmpC") := by
  have hn : FinNames.ofEntry "out.jbk" ".tmpA" ".tmpB" ".tmpC" =
      ⟨"out.jbk", "out.jbkc", "out..jbkd", ".tmpA", ".tmpB", ".tmpC"⟩ := by
    simp [FinNames.ofEntry, withExtension]
  rw [hn]
  constructor <;> simp [exIsTemp]
example : (creationTrace .noConcat (FinNames.ofEntry "out.jbk" ".tmpA" ".tmpB" ".tmpC") ⟨[1, 2], [3], [], [4], [5], []⟩).length = 11 := by
  decide

/-- non-vacuity: the creator's shape of run is disciplined; entry-point first is rejected -/
example : Discipline exIsTemp "out.jbk" [] exTrace = true := exTrace_disciplined
example : Discipline exIsTemp "out.jbk" [] exTraceBad = false := exTraceBad_rejected

/-- **The order in which the modelled creation runs publish their files is the order of the publishing
    statements of `BasicCreator::finalize` as extracted from `creator/basic_creator.rs` on every run**: the
    extracted sequence of `AtomicOutFile::new` / `close_file` statements is `finalizePublications` (and the
    function contains no other file-system operation), and for every packaging the renames of
    `creationTrace` are, in order, the targets of those statements the packaging executes — the entry point
    last (`c09_modes`, `c09_creation_crash`, `c09_creation_error_return` are about these traces). -/
theorem c09_publication_order_is_source_order :
    Generated.basicCreatorPublications = finalizePublications ∧
    ∀ (m : ConcatMode) (n : FinNames) (w : FinWrites),
      renameTargets (creationTrace m n w) =
        (finalizePublications.filter (PubStmt.runsIn m)).filterMap (PubStmt.target n) :=
  ⟨gen_basicCreatorPublications, creationTrace_renames⟩

end Jubako
