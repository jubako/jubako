/-
C14 — written bytes follow the documented layout; old files keep reading the same.

The "independent decoder" is the Lean reader model (Model/*.lean, compiled as the driver): written
from the layout, sharing no code with the library, with its own CRC-32C and blake3.
-/
import JubakoModel.Lemmas.Codec
import JubakoModel.Lemmas.DirCodec
import JubakoModel.Lemmas.Container
import JubakoModel.Lemmas.Layouts
import JubakoModel.Lemmas.ContentFile
import JubakoModel.Lemmas.DirFileWrite
import JubakoModel.Lemmas.VerifiesPacks
import JubakoModel.Lemmas.FuncsBytes
import JubakoModel.Lemmas.FuncsContent
import JubakoModel.Lemmas.FuncsCheck
import JubakoModel.Lemmas.FuncsDir
import JubakoModel.Lemmas.FuncsParse
import JubakoModel.Lemmas.FuncsOpen
-- nothing of FuncsLookup is used below: the import ties C14 to that group of translated bodies (tools/engine.py)
import JubakoModel.Lemmas.FuncsLookup
import JubakoModel.Lemmas.FuncsCluster

namespace Jubako

/-- every block is `data ‖ big-endian CRC-32C(data)` and verifies -/
theorem c14_block_layout (d : Bytes) :
    block d = d ++ be32 (crc32c d).toNat ∧ (block d).length = d.length + 4 ∧ checkBlock (block d) = true :=
  ⟨rfl, block_length d, checkBlock_block d⟩

/-- CRC parameters as coded (regenerated from `bases/block.rs` on every run): polynomial 0x1EDC6F41,
    initial value 0xFFFFFFFF, no final xor — so `crc32c ε = 0xFFFFFFFF` -/
theorem c14_crc_parameters :
    Consts.crcPoly = 0x1EDC6F41 ∧ Consts.crcInit = 0xFFFFFFFF ∧ Consts.crcXorOut = 0 ∧
    (crc32c []).toNat = 0xFFFFFFFF :=
  ⟨rfl, rfl, rfl, rfl⟩

/-- the pack header is 60 bytes (+ CRC = 64) with the magic, kind, version, uuid, sizes at fixed
    offsets; it round-trips -/
theorem c14_pack_header (h : PackHeader) (hw : h.WF)
    (hv : h.major = Consts.versionGateMajor ∧ h.minor = Consts.versionGateMinor) :
    h.encode.length = 60 ∧ PackHeader.decode h.encode = .ok h ∧
    h.encode.take 3 = [106, 98, 107] ∧ h.encode.getD 3 0 = h.kind.byte := by
  refine ⟨PackHeader.encode_length h hw, PackHeader.decode_encode h hw hv, ?_, ?_⟩ <;> simp [PackHeader.encode]

/-- format version gate (0, 2), read out of the source -/
theorem c14_version : Consts.versionMajor = 0 ∧ Consts.versionMinor = 2 ∧
    Consts.versionGateMajor = Consts.versionMajor ∧ Consts.versionGateMinor = Consts.versionMinor :=
  ⟨rfl, rfl, rfl, rfl⟩

/-- the tail of a pack is its 64-byte header block byte-reversed -/
theorem c14_tail_mirror (H mask : Bytes → Bytes) (h : PackHeader) (body : Bytes) (hw : h.WF) :
    (framePack H mask h body).drop ((framePack H mask h body).length - 64) = (block h.encode).reverse := by
  have hl : (block h.encode).reverse.length = 64 := by
    rw [List.length_reverse, block_length, PackHeader.encode_length h hw]
  rw [framePack, packTail, List.length_append, hl, Nat.add_sub_cancel]
  exact List.drop_left

/-- declared pack size = check position + check block + 64-byte tail, for the three pack kinds
    with a blake3 check (37 bytes) and for container packs (5 bytes, repaired D12) -/
theorem c14_pack_size (H mask : Bytes → Bytes) (h : PackHeader) (body : Bytes) (hw : h.WF)
    (hcip : h.checkInfoPos = 64 + body.length) (hH : ∀ x, (H x).length = 32) :
    (framePack H mask h body).length = h.checkInfoPos + 37 + 64 := by
  rw [framePack_length_of_WF hw hH, hcip]

theorem c14_container_pack_size (uuid freeData : Bytes) (packs : List (Bytes × Bytes))
    (hu : uuid.length = 16) (hf : freeData.length = 24) (hpu : ∀ p ∈ packs, p.1.length = 16) :
    (containerPackWrite uuid freeData packs).length = (cpwHeader uuid packs).packSize :=
  containerPackWrite_length_packSize uuid freeData packs hu hf

/-- sized offset = `offset << 16 | size` on 8 little-endian bytes; content info = `cluster << 12 |
    blob` on 4 -/
theorem c14_sized_offset (o s : Nat) (ho : o < 2 ^ 48) (hs : s < 2 ^ 16) :
    sizedOffsetEncode o s = leBytes (o * 65536 + s) 8 ∧ sizedOffsetDecode (sizedOffsetEncode o s) = (o, s) := by
  refine ⟨?_, sizedOffset_roundtrip o s ho hs⟩
  unfold sizedOffsetEncode
  rw [Nat.mod_eq_of_lt hs, Nat.mod_eq_of_lt (by omega)]

theorem c14_content_info (c b : Nat) (hc : c < 2 ^ 20) (hb : b < 2 ^ 12) :
    contentInfoEncode c b = leBytes (c * 4096 + b) 4 ∧ contentInfoDecode (contentInfoEncode c b) = (c, b) := by
  refine ⟨?_, contentInfo_roundtrip c b hc hb⟩
  unfold contentInfoEncode
  rw [Nat.mod_eq_of_lt hb, Nat.mod_eq_of_lt (by omega)]

/-- integers are little-endian on exactly the announced width -/
theorem c14_le_integers (v n : Nat) (h : v < 256 ^ n) : (leBytes v n).length = n ∧ leNat (leBytes v n) = v :=
  ⟨leBytes_length v n, leNat_leBytes_of_lt v n h⟩

/-- in the source, the writer and the reader of every fixed-layout structure go through the same
    fields, in the same order, with the same widths -/
theorem c14_source_writer_reader_agree :
    Generated.packHeaderSer = Generated.packHeaderPar ∧
    Generated.packInfoSer = Generated.packInfoPar ∧
    Generated.packLocatorSer = Generated.packLocatorPar ∧
    Generated.containerHeaderSer = Generated.containerHeaderPar ∧
    Generated.contentHeaderSer = Generated.contentHeaderPar ∧
    Generated.directoryHeaderSer = Generated.directoryHeaderPar ∧
    Generated.manifestHeaderSer = Generated.manifestHeaderPar := source_writer_reader_agree

/-- **the model's encoders are the source's layouts**: each encoder is the concatenation of its
    fields in the order the Rust `serialize` writes them -/
theorem c14_encoders_follow_source (ph : PackHeader) (pi : PackInfo) (pl : PackLocator)
    (ch : ContainerHeader) (coh : ContentHeader) (dh : DirectoryHeader) (mh : ManifestHeader) :
    ph.encode = srcLayoutBytes Generated.packHeaderSer (packHeaderField ph) ∧
    pi.encode = srcLayoutBytes Generated.packInfoSer (packInfoField pi) ∧
    pl.encode = srcLayoutBytes Generated.packLocatorSer (packLocatorField pl) ∧
    ch.encode = srcLayoutBytes Generated.containerHeaderSer (containerHeaderField ch) ∧
    coh.encode = srcLayoutBytes Generated.contentHeaderSer (contentHeaderField coh) ∧
    dh.encode = srcLayoutBytes Generated.directoryHeaderSer (directoryHeaderField dh) ∧
    mh.encode = srcLayoutBytes Generated.manifestHeaderSer (manifestHeaderField mh) :=
  ⟨packHeader_layout ph, packInfo_layout pi, packLocator_layout pl, containerHeader_layout ch,
   contentHeader_layout coh, directoryHeader_layout dh, manifestHeader_layout mh⟩

/-- … so every field of a written pack header sits at the offset, and has the width, that the
    source's `serialize` implies (offsets 0, 4, 8, 9, 10, 26, 27, 32, 40, 48; 60 bytes) -/
theorem c14_pack_header_fields (h : PackHeader) (hw : h.WF) :
    h.encode.length = srcLayoutSize Generated.packHeaderSer ∧
    ∀ n off w, (n, off, w) ∈ srcFieldOffsets Generated.packHeaderSer 0 →
      slice h.encode off w = packHeaderField h n := by
  rw [packHeader_layout h]
  exact ⟨srcLayoutBytes_length _ _ (packHeader_widths h hw), srcLayoutBytes_slice _ _ (packHeader_widths h hw)⟩

/-- the offsets at which the model's decoders read are those implied by the source's `parse`
    (the decoders of Model/Pack.lean, Open.lean, Container.lean use these literals) -/
theorem c14_reader_offsets :
    (srcFieldOffsets Generated.packHeaderPar 0).map (fun p => (p.2.1, p.2.2)) =
      [(0, 4), (4, 4), (8, 1), (9, 1), (10, 16), (26, 1), (27, 5), (32, 8), (40, 8), (48, 12)] ∧
    (srcFieldOffsets Generated.packInfoPar 0).map (fun p => (p.2.1, p.2.2)) =
      [(0, 16), (16, 8), (24, 8), (32, 2), (34, 1), (35, 1), (36, 2), (38, 214)] ∧
    (srcFieldOffsets Generated.packLocatorPar 0).map (fun p => (p.2.1, p.2.2)) = [(0, 16), (16, 8), (24, 8)] ∧
    (srcFieldOffsets Generated.containerHeaderPar 0).map (fun p => (p.2.1, p.2.2)) =
      [(0, 8), (8, 2), (10, 26), (36, 24)] ∧
    (srcFieldOffsets Generated.contentHeaderPar 0).map (fun p => (p.2.1, p.2.2)) =
      [(0, 8), (8, 8), (16, 4), (20, 4), (24, 12), (36, 24)] ∧
    (srcFieldOffsets Generated.directoryHeaderPar 0).map (fun p => (p.2.1, p.2.2)) =
      [(0, 8), (8, 8), (16, 8), (24, 4), (28, 4), (32, 1), (33, 3), (36, 24)] ∧
    (srcFieldOffsets Generated.manifestHeaderPar 0).map (fun p => (p.2.1, p.2.2)) =
      [(0, 2), (2, 8), (10, 26), (36, 24)] :=
  ⟨rfl, rfl, rfl, rfl, rfl, rfl, rfl⟩

theorem c14_pack_info_roundtrip (p : PackInfo) (hw : p.WF) :
    p.encode.length = 252 ∧ PackInfo.decode p.encode = .ok p :=
  ⟨PackInfo.encode_length p hw, PackInfo.decode_encode p hw⟩

theorem c14_manifest_header_roundtrip (m : ManifestHeader) (h1 : m.packCount < 2 ^ 16)
    (h2 : m.valueStore.1 < 2 ^ 48) (h3 : m.valueStore.2 < 2 ^ 16) (h4 : m.freeData.length = 24) :
    ManifestHeader.decode m.encode = .ok m := ManifestHeader.decode_encode m h1 h2 h3 h4

theorem c14_check_info_roundtrip (c : CheckInfo) (h : ∀ x, c = .blake3 x → x.length = 32) :
    CheckInfo.decode c.encode = .ok c := CheckInfo.decode_encode c h

theorem c14_pack_locator_roundtrip (l : PackLocator) (hu : l.uuid.length = 16) (hs : l.size < 2 ^ 64)
    (hp : l.pos < 2 ^ 64) : l.encode.length = 32 ∧ PackLocator.decode l.encode = .ok l :=
  ⟨PackLocator.encode_length l hu, PackLocator.decode_encode l hu hs hp⟩

theorem c14_container_header_roundtrip (h : ContainerHeader) (h1 : h.locatorsPos < 2 ^ 64)
    (h2 : h.packCount < 2 ^ 16) (h3 : h.freeData.length = 24) :
    ContainerHeader.decode h.encode = .ok h := ContainerHeader.decode_encode h h1 h2 h3

theorem c14_property_header_roundtrip (p : RawProp) (rest : Bytes) (hw : p.Writable) :
    RawProp.decode (p.encode ++ rest) = .ok (p, rest) := rawProp_roundtrip p rest hw

theorem c14_container_pack_roundtrip (uuid freeData : Bytes) (packs : List (Bytes × Bytes))
    (hu : uuid.length = 16) (hf : freeData.length = 24) (hpu : ∀ p ∈ packs, p.1.length = 16)
    (hn : packs.length < 2 ^ 16) (hl : (containerPackWrite uuid freeData packs).length < 2 ^ 64) :
    containerPackOpen (containerPackWrite uuid freeData packs) 0 (containerPackWrite uuid freeData packs).length =
      .ok ((concatLayout packs).2.map (fun l => ⟨l.uuid, l.pos, l.size⟩)) :=
  containerPackOpen_write uuid freeData packs hu hf hpu hn hl

/-! `contentPackWrite` and `dirPackWrite` are the writer models the correspondence check compares byte for byte
with the files the Rust creators produce (`cp.encode`, `dp.encode`); `manifestWrite` and `containerPackWrite` are not
run by the driver: what the creators write of these two kinds is only read back by the reader model (`ct.open`).
For every input the four produce exactly:
pack header block ‖ kind header block ‖ body parts ‖ check block ‖ header block reversed. -/

/-- content pack = header ‖ content header ‖ clusters (payload ‖ tail block, in arrival order) ‖
    cluster pointer table ‖ content info table ‖ blake3 check block ‖ mirrored header -/
theorem c14_content_pack_file_layout (H : Bytes → Bytes) (codec : Codec) (m : ContentPackMeta)
    (arrival : List Cluster) (infos : List (Nat × Nat)) :
    contentPackWrite H codec m arrival infos =
      block (cfHeader codec m arrival infos).encode ++
        (block (cfCH codec m arrival infos).encode ++ (cfBytes codec arrival ++
          (block (cfPtrData codec arrival) ++ (block (cfInfoData infos) ++
            cfTrailer H codec m arrival infos)))) ∧
    (cfCH codec m arrival infos).clusterPtrPos = 128 + (cfBytes codec arrival).length ∧
    (cfCH codec m arrival infos).contentPtrPos =
      128 + (cfBytes codec arrival).length + (block (cfPtrData codec arrival)).length ∧
    (cfHeader codec m arrival infos).checkInfoPos =
      (cfCH codec m arrival infos).contentPtrPos + (block (cfInfoData infos)).length ∧
    (cfHeader codec m arrival infos).packSize = (cfHeader codec m arrival infos).checkInfoPos + 37 + 64 :=
  ⟨contentPackWrite_eq H codec m arrival infos, rfl, rfl, rfl, rfl⟩

/-- directory pack = header ‖ directory header ‖ index tails ‖ entry data block ‖ entry store tail ‖
    value stores ‖ three pointer tables ‖ check block ‖ mirrored header -/
theorem c14_directory_pack_file_layout (H : Bytes → Bytes) (vendor uuid freeData : Bytes) (d : DirIn) :
    dirPackWrite H vendor uuid freeData d =
      block (d.header vendor uuid).encode ++ (block (d.dh freeData).encode ++
        (d.idxBytes ++ (block d.entryBytes ++ (block d.esTail ++ (d.vsBytes ++
          (block d.t1 ++ (block d.t2 ++ (block d.t3 ++ d.trailer H vendor uuid freeData)))))))) :=
  dirPackWrite_eq H vendor uuid freeData d

/-- manifest pack = header ‖ manifest header ‖ copies of the packs' check blocks and the free-data
    store ‖ one 256-byte block per pack info ‖ check block (over the masked prefix) ‖ mirrored header -/
theorem c14_manifest_pack_file_layout (H : Bytes → Bytes) (vendor uuid freeData checkBlocks : Bytes)
    (store : VStore) (infos : List PackInfo) :
    manifestWrite H vendor uuid freeData checkBlocks store infos =
      block (mwHeader vendor uuid checkBlocks store infos).encode ++
        block (mwMH freeData checkBlocks store infos).encode ++ mwMid checkBlocks store ++
        (infos.flatMap fun p => block p.encode) ++
        mwTrailer H vendor uuid freeData checkBlocks store infos :=
  manifestWrite_eq H vendor uuid freeData checkBlocks store infos

/-- container pack = header ‖ container header ‖ the packs back to back ‖ locator table ‖
    `block [0]` ‖ mirrored header -/
theorem c14_container_pack_file_layout (uuid freeData : Bytes) (packs : List (Bytes × Bytes)) :
    containerPackWrite uuid freeData packs =
      block (cpwHeader uuid packs).encode ++ (block (cpwCH freeData packs).encode ++ (cpwBody packs ++
        (locTable (layoutLocs 0 packs) ++ (block CheckInfo.none.encode ++
          (block (cpwHeader uuid packs).encode).reverse)))) :=
  containerPackWrite_eq uuid freeData packs

/-- **`SizedOffset` and `ContentInfo` are packed and unpacked by the model exactly as by the bodies of
    their `serialize` / `parse` translated from the Rust source on every run** (shift amounts, masks,
    which half is which). -/
theorem c14_bit_packing_follows_source :
    (∀ offset size, sizedOffsetEncode offset size = leBytes (Generated.sizedOffsetPack offset size % 2 ^ 64) 8) ∧
    (∀ bs, sizedOffsetDecode bs = ((Generated.sizedOffsetUnpack (leNat bs)).2, (Generated.sizedOffsetUnpack (leNat bs)).1)) ∧
    (∀ cluster blob, contentInfoEncode cluster blob = leBytes (Generated.contentInfoPack cluster blob % 2 ^ 32) 4) ∧
    (∀ bs, contentInfoDecode bs = Generated.contentInfoUnpack (leNat bs)) :=
  ⟨gen_sizedOffsetPack, gen_sizedOffsetUnpack, gen_contentInfoPack, gen_contentInfoUnpack⟩

/-- **The cluster tail the model writes is the byte image of the writes of `serialize_cluster_tail` as
    translated from the Rust source on every run** (order of the fields, the width rule, the blob count
    as `u16`, all end offsets but the last). -/
theorem c14_cluster_tail_follows_source (c : Cluster) (comp raw : Nat) :
    (c.tail comp raw).encode =
      (let r := Generated.clusterTailWrites comp c.blobs.length c.dataSize (endOffsets c.blobs 0) raw
       [UInt8.ofNat r.1.1, UInt8.ofNat r.1.2.1] ++ leBytes r.1.2.2 2 ++ writesBytes r.2) :=
  gen_clusterTail c comp raw

/-- **Declared pack sizes follow the source** (`gen_packSizes`): what the writer models put in the
    `packSize` field is what the four creators' bodies compute now. -/
theorem c14_pack_sizes_follow_source (cip : Nat) :
    Generated.contentPackSize cip 64 = cip + 37 + 64 ∧
    Generated.directoryPackSize cip 64 = cip + 37 + 64 ∧
    Generated.manifestPackSize cip 64 = cip + 37 + 64 ∧
    Generated.containerPackSize cip 64 = cip + 5 + 64 :=
  gen_packSizes cip

/-- **Value-store tails follow the source** (`gen_vstoreTail`): the tail bytes the writer model emits
    for plain and indexed stores are the byte image of the writes of the two `serialize_tail` bodies as
    translated from `creator/directory_pack/value_store.rs` on every run. -/
theorem c14_value_store_tails_follow_source (s : VStore) :
    s.tailBytes = writesBytes (if s.indexed then Generated.indexedStoreTailWrites s.values s.dataSize
                               else Generated.plainStoreTailWrites s.dataSize) :=
  gen_vstoreTail s

/-- **Index tails follow the source** (`gen_indexTail`): field order and widths of the index tail the
    writer model emits are those of `Index::serialize_tail` as translated on every run (widths from the
    struct definition and the type table of the source). -/
theorem c14_index_tail_follows_source (i : IndexInfo) (hfd : i.freeData.length = 4) (hn : i.name.length < 256) :
    i.encode = writesBytes (Generated.indexTailWrites i.storeId i.count i.offset i.freeData i.key i.name) :=
  gen_indexTail i hfd

/-- **Cluster header and index header follow the source's layouts** (translated on every run by
    tools/extract_layouts.py): writer and reader of the cluster header agree on `(compression : 1,
    offset width : 1, blob count : 2)`, which are the first four bytes of the model's cluster tail; the
    reader of an index tail takes fields of 4, 4, 4, 4 and 1 bytes and then the name (p-string) — the
    widths the model's `IndexInfo.decode` takes, and the widths the translated writer
    (`Generated.indexTailWrites`) writes. -/
theorem c14_cluster_and_index_headers_follow_source :
    Generated.clusterHeaderSer = Generated.clusterHeaderPar ∧
    (srcFieldOffsets Generated.clusterHeaderPar 0).map (fun p => (p.2.1, p.2.2)) = [(0, 1), (1, 1), (2, 2)] ∧
    (∀ t : ClusterTail, t.encode.take 4 =
      srcLayoutBytes Generated.clusterHeaderSer (fun n =>
        if n = "compression" then [UInt8.ofNat t.comp] else if n = "offset_size" then [UInt8.ofNat t.offsetSize]
        else if n = "blob_count" then leBytes t.blobCount 2 else [])) ∧
    (srcFieldOffsets Generated.indexHeaderPar 0).map (fun p => (p.2.1, p.2.2)) =
      [(0, 4), (4, 4), (8, 4), (12, 4), (16, 1), (17, 0)] ∧
    (∀ a b c fd k nm, ((Generated.indexTailWrites a b c fd k nm).map (·.2)).take 5 =
      (Generated.indexHeaderPar.map (·.2)).take 5) :=
  ⟨rfl, rfl, fun _ => rfl, rfl, fun _ _ _ _ _ _ => rfl⟩

/-- **The layout header follows the source** (`gen_propertyHeader`): for every property kind the creator
    writes, the header bytes of the writer model are the byte image of the writes of
    `Property::serialize` (`creator/directory_pack/layout/property.rs`) translated on every run — the
    `SrcProperty` type it is stated over is itself generated from the Rust `enum Property` (variants and
    field order), the key-type constants from `enum PropType`. -/
theorem c14_property_header_follows_source (p : RawProp) (src : Generated.SrcProperty)
    (hs : p.toSrc = some src) (hw : p.HeaderWF) :
    p.encode = writesBytes (Generated.propertyWrites src) :=
  gen_propertyHeader p src hs hw

/-- non-vacuity: an unsigned 2-byte column stored as a default, a content address with 2-byte pack ids
    and an array with a 3-byte inline prefix whose remainder sits in value store 1 -/
example :
    (RawProp.mk 0 [120] (.uint 2 (some 513))).toSrc = some (.unsignedInt 2 (some 513) [120]) ∧
    (RawProp.mk 0 [120] (.uint 2 (some 513))).HeaderWF ∧
    (RawProp.mk 3 [99] (.content 2 1 none)).HeaderWF ∧
    (RawProp.mk 6 [97] (.array (some 1) 3 (some (2, 1)) none)).HeaderWF := by
  refine ⟨rfl, ?_, ?_, ?_⟩ <;> simp [RawProp.HeaderWF]

/-- **The entry-store tail follows the source** (`gen_entryStoreTail`): kind byte, entry count, flag and the
    whole layout header (entry size, variant count, property count, every property header) of the writer
    model are the byte image of the writes of `EntryStore::serialize_tail`, `Entry::serialize` and
    `Property::serialize` as translated on every run. -/
theorem c14_entry_store_tail_follows_source (l : LayoutOut) (n : Nat) (srcC : List Generated.SrcProperty)
    (srcV : List (List Generated.SrcProperty))
    (hc : l.common.map RawProp.toSrc = srcC.map some)
    (hv : l.variants.flatten.map RawProp.toSrc = srcV.flatten.map some)
    (hlen : srcV.length = l.variants.length)
    (hw : ∀ p ∈ l.common ++ l.variants.flatten, p.HeaderWF) (hn : n < 2 ^ 32) :
    entryStoreTail l n = writesBytes (Generated.entryStoreTailWrites n
      (Generated.entryLayoutWrites l.entrySize (l.common ++ l.variants.flatten).length srcC srcV)) :=
  gen_entryStoreTail l n srcC srcV hc hv hlen hw hn

/-- **The reader's decoding of a property header follows the source**: `RawProperty::parse`
    (`reader/directory_pack/raw_layout.rs`, with `PropType::try_from` and `ByteSize::try_from`), translated on
    every run into a sequential parser over a byte list, is `RawProp.decode` of the reader model on every byte
    string — same property, same unread rest, same kind of failure. -/
theorem c14_property_header_parser_follows_source (bs : Bytes) :
    (Generated.rawPropertyParse bs).Same ((RawProp.decode bs).map' (fun x => (x.1.toSrcRaw, x.2))) :=
  gen_rawPropertyParse bs

/-- non-vacuity: a signed 3-byte property with a default -/
example : Generated.rawPropertyParse [0b0011_1010, 0x03, 0x02, 0xF1, 1, 97, 9] =
    .ok ((0, .signedInt 3 (some (-982525)), [97]), [9]) := by rfl

/-- **The reader's decoding of the property list of a layout follows the source**: `RawLayout::parse` (a count
    byte, then that many `RawProperty::parse`), translated on every run, is `rawLayoutDecode` of the reader
    model on every byte string; the translated loop recurses on the count, so it terminates. -/
theorem c14_raw_layout_parser_follows_source (bs : Bytes) :
    ((Generated.rawLayoutParse bs).map' (·.1)).Same ((rawLayoutDecode bs).map' (List.map RawProp.toSrcRaw)) :=
  gen_rawLayoutParse bs

/-- **The reader's decoding of an index header follows the source**: `IndexHeader::parse` translated on every run
    is `IndexInfo.decode` on every byte string. -/
theorem c14_index_header_parser_follows_source (bs : Bytes) :
    (Generated.indexHeaderParse bs).map' (fun r => (⟨r.1.1, r.1.2.1, r.1.2.2.1, r.1.2.2.2.1, r.1.2.2.2.2.1, r.1.2.2.2.2.2⟩ : IndexInfo)) =
      IndexInfo.decode bs :=
  gen_indexHeaderParse bs

/-- **The reader's decoding of the pack header follows the source** (and with it the rule that makes old files keep
    reading or be refused cleanly): `PackHeader::parse` translated on every run is `PackHeader.decode` on every
    60-byte block, the version gate included and in the source's order. -/
theorem c14_pack_header_parser_follows_source (bs : Bytes) (h60 : bs.length = 60) :
    (Generated.packHeaderParse bs).map' (fun r => tupleToHeader r.1) = PackHeader.decode bs :=
  gen_packHeaderParse bs h60

/-- **The reader's decoding of the four kind headers and of the pack locator follows the source**: their
    `parse` functions, translated on every run into sequential parsers, equal the model's `decode` functions on
    every block of the size the reader hands them. -/
theorem c14_kind_headers_parser_follows_source :
    (∀ bs : Bytes, bs.length = 60 →
      (Generated.containerHeaderParse bs).map' (fun r => (⟨r.1.1, r.1.2.1, r.1.2.2⟩ : ContainerHeader)) = ContainerHeader.decode bs) ∧
    (∀ bs : Bytes, bs.length = 60 →
      (Generated.contentHeaderParse bs).map' (fun r => (⟨r.1.1, r.1.2.1, r.1.2.2.1, r.1.2.2.2.1, r.1.2.2.2.2⟩ : ContentHeader)) =
        ContentHeader.decode bs) ∧
    (∀ bs : Bytes, bs.length = 60 →
      (Generated.directoryHeaderParse bs).map'
          (fun r => (⟨r.1.1, r.1.2.1, r.1.2.2.1, r.1.2.2.2.1, r.1.2.2.2.2.1, r.1.2.2.2.2.2.1, r.1.2.2.2.2.2.2⟩ : DirectoryHeader)) =
        DirectoryHeader.decode bs) ∧
    (∀ bs : Bytes, bs.length = 60 →
      (Generated.manifestHeaderParse bs).map' (fun r => (⟨r.1.1, (r.1.2.1 / 65536, r.1.2.1 % 65536), r.1.2.2⟩ : ManifestHeader)) =
        ManifestHeader.decode bs) ∧
    (∀ bs : Bytes, bs.length = 32 →
      (Generated.packLocatorParse bs).map' (fun r => (⟨r.1.1, r.1.2.1, r.1.2.2⟩ : PackLocator)) = PackLocator.decode bs) :=
  ⟨gen_containerHeaderParse, gen_contentHeaderParse, gen_directoryHeaderParse, gen_manifestHeaderParse, gen_packLocatorParse⟩

/-- **The reader's decoding of a pack info follows the source**: `PackInfo::parse` translated on every run equals
    `PackInfo.decode` on every 252-byte block. -/
theorem c14_pack_info_parser_follows_source (bs : Bytes) (h252 : bs.length = 252) :
    (Generated.packInfoParse bs).map' (fun r => tupleToInfo r.1) = PackInfo.decode bs :=
  gen_packInfoParse bs h252

/-- **The head of an entry-store layout is decoded as the source decodes it**: `Layout.decode` is `layoutHead`
    followed by the splitting of the properties (`layoutDecode_head`), and `layoutHead` is the statements of
    `Layout::parse` up to that splitting, translated on every run (entry count, per-entry-CRC flag, entry size,
    variant count, property list). The splitting itself (`splitVariants`) stays hand-modelled. -/
theorem c14_layout_head_follows_source (bs : Bytes) :
    Layout.decode bs = (layoutHead bs).bind layoutRest ∧
    ((Generated.layoutParseHead bs).map' (fun r => (r.1.1, r.1.2.1, r.1.2.2.1, r.1.2.2.2.1, r.1.2.2.2.2))).Same
      ((layoutHead bs).map' (fun h => (h.1, h.2.1, h.2.2.1, h.2.2.2.1, h.2.2.2.2.map RawProp.toSrcRaw))) :=
  ⟨layoutDecode_head bs, gen_layoutParseHead bs⟩

/-- **The fixed-width wrappers read the widths the layout says**: `Count<u8|u16|u32|u64>::parse`, `Size::parse` and
    `Offset::parse`, translated on every run, are little-endian reads of 1, 2, 4, 8, 8 and 8 bytes. The tables of the
    other translated parsers write `takeLE bs w` for a call to one of them; this theorem is what makes that entry a
    checked one rather than a trusted one. -/
theorem c14_fixed_width_wrappers_follow_source (bs : Bytes) :
    Generated.countU8Parse bs = takeLE bs 1 ∧ Generated.countU16Parse bs = takeLE bs 2 ∧
    Generated.countU32Parse bs = takeLE bs 4 ∧ Generated.countU64Parse bs = takeLE bs 8 ∧
    Generated.sizeParse bs = takeLE bs 8 ∧ Generated.offsetParse bs = takeLE bs 8 :=
  gen_fixedWidthParsers bs

/-- … and so do the index and identifier wrappers: `Idx<u8|u16|u32|u64>::parse` and `Id<u8|u16>::parse`, translated on
    every run, are little-endian reads of 1, 2, 4, 8 and 1, 2 bytes. -/
theorem c14_index_wrappers_follow_source (bs : Bytes) :
    Generated.idxU8Parse bs = takeLE bs 1 ∧ Generated.idxU16Parse bs = takeLE bs 2 ∧
    Generated.idxU32Parse bs = takeLE bs 4 ∧ Generated.idxU64Parse bs = takeLE bs 8 ∧
    Generated.idU8Parse bs = takeLE bs 1 ∧ Generated.idU16Parse bs = takeLE bs 2 :=
  gen_indexWrappers bs

/-- **The cluster header is decoded as the source decodes it**: `ClusterHeader::parse` with `CompressionType::parse`,
    translated on every run, answers on every byte string what the reader model computes from the first four bytes
    of a cluster tail: compression byte 0..3 (anything else a format error), offset width 1..8, blob count on two
    bytes little-endian, the rest of the tail after byte 4. -/
theorem c14_cluster_header_parser_follows_source (bs : Bytes) :
    (Generated.clusterHeaderParse bs).map' (fun r => ((srcCompressionToNat r.1.1, r.1.2.1, r.1.2.2), r.2)) =
      clusterHeaderModel bs ∧
    (∀ c, leNat (slice bs 2 2) = c + 1 →
      (((Generated.clusterHeaderParse bs).bind fun r =>
          Generated.clusterBuilderParse r.2 (srcCompressionToNat r.1.1, r.1.2.1, r.1.2.2)).map'
          (fun r => (r.1.1.1, r.1.1.2.1, r.1.1.2.2, r.1.2))).Same
        ((ClusterTail.decode bs).map' (fun t => (0 :: t.offsets ++ [t.dataSize], t.dataSize, t.comp, t.rawSize)))) :=
  ⟨gen_clusterHeaderParse bs, fun c h => gen_clusterTailParse bs c h⟩

/-- the header model is a value on a well-formed header and an error on each malformed class -/
example : clusterHeaderModel [2, 3, 1, 1, 9] = .ok ((2, 3, 257), [9]) ∧ clusterHeaderModel [4, 3, 1, 1] = .err .format ∧
    clusterHeaderModel [0, 9, 1, 1] = .err .format ∧ clusterHeaderModel [0, 1, 1] = .err .format :=
  ⟨rfl, rfl, rfl, rfl⟩

end Jubako
