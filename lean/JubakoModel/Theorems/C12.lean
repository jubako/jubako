/-
C12 — rewriting a pack location changes only that location; the manifest stays valid.

Byte-level statements over the executable model of `tools::set_location` (`setLocationAt`, Model/Pack.lean) and
of the masked manifest check.  `ManifestLayout` (Lemmas/SetLocation.lean) describes a manifest pack: CRC-valid
pack header and manifest header, well-formed 256-byte pack-info blocks ending exactly at the check block; the
layout the creator writes satisfies it (`ManifestLayout.of_concat_mid`).
-/
import JubakoModel.Lemmas.SetLocation
import JubakoModel.Lemmas.FuncsCheck
import JubakoModel.Lemmas.FuncsLookup
import JubakoModel.Lemmas.FuncsManifest
import JubakoModel.Lemmas.FuncsOpen

namespace Jubako

/-- **What `set_location` does, on bytes**: for a manifest found at `origin` in any file, naming a
    listed pack splices the re-encoded 256-byte block of the *first* pack info carrying that uuid
    and nothing else; the bytes before the manifest are untouched; the old location is returned.
    Naming a pack that is not listed changes nothing. -/
theorem c12_set_location (file : Bytes) (origin : Nat) (uuid loc : Bytes) (h : PackHeader)
    (m : ManifestHeader) (base : Nat) (infos : List PackInfo)
    (S : ManifestLayout (file.drop origin) h m base infos) (hl : loc.length ≤ Consts.locationPad) :
    setLocationAt file origin uuid loc =
      .ok (file.take origin ++ fileStep base infos (file.drop origin) (uuid, loc), oldLocation infos uuid) :=
  setLocationAt_eq file origin uuid loc h m base infos S hl

theorem c12_unknown_pack (file : Bytes) (origin : Nat) (uuid loc : Bytes) (h : PackHeader)
    (m : ManifestHeader) (base : Nat) (infos : List PackInfo)
    (S : ManifestLayout (file.drop origin) h m base infos)
    (hn : infos.findIdx? (fun p => p.uuid == uuid) = none) :
    setLocationAt file origin uuid loc = .ok (file, none) :=
  setLocationAt_notfound file origin uuid loc h m base infos S hn

/-- **One rewrite, byte level**: length unchanged; bytes change only inside `[38, 256)` of the
    target block (location field + block CRC); the block carries a valid CRC again and decodes to the
    same pack info with the new location; every other pack-info block is untouched; the masked byte
    string hashed by the global check is unchanged. -/
theorem c12_rewrite_one (f : Bytes) (po n : Nat) (infos : List PackInfo) (k : Nat) (loc : Bytes)
    (hm : ManifestAt f po infos) (hn : infos.length = n) (hk : k < infos.length)
    (hw : (infos[k]).WF) (hl : loc.length ≤ Consts.locationPad) :
    let f' := splice f (po + k * 256) (block (setLoc infos[k] loc).encode)
    f'.length = f.length ∧
    (∀ i, (i < po + k * 256 + 38 ∨ po + k * 256 + 256 ≤ i) → f'[i]? = f[i]?) ∧
    readBlock f' (po + k * 256) 252 = .ok (setLoc infos[k] loc).encode ∧
    PackInfo.decode (setLoc infos[k] loc).encode = .ok (setLoc infos[k] loc) ∧
    ManifestAt f' po (infos.set k (setLoc infos[k] loc)) ∧
    manifestMask po n f' = manifestMask po n f := by
  subst hn
  obtain ⟨h1, h2, h3, h4, h5⟩ := rewrite_one f po infos k loc hm hk hw hl
  exact ⟨h1, h2, h3, PackInfo.decode_encode _ (setLoc_WF _ loc hw hl), h4, h5⟩

/-- **Any number of rewrites**: after every history of admissible rewrites the file still holds
    well-formed pack-info blocks decoding to the spec-level result (each location reads back as its
    last write; all other fields and all other packs are unchanged), with unchanged length and
    unchanged masked bytes. -/
theorem c12_histories (po n : Nat) (ops : List (Bytes × Bytes)) (f : Bytes) (infos : List PackInfo)
    (hm : ManifestAt f po infos) (hn : infos.length = n) (hw : ∀ p ∈ infos, p.WF)
    (hl : ∀ op ∈ ops, op.2.length ≤ Consts.locationPad) :
    let r := ops.foldl (fun (st : Bytes × List PackInfo) op => (fileStep po st.2 st.1 op, specStep st.2 op)) (f, infos)
    ManifestAt r.1 po r.2 ∧ r.2 = ops.foldl specStep infos ∧ r.1.length = f.length ∧
    r.2.length = n ∧ (∀ p ∈ r.2, p.WF) ∧ manifestMask po n r.1 = manifestMask po n f :=
  hn ▸ rewrite_histories po ops f infos hm hw hl

/-- **The manifest's global check still verifies**: for every hash function, the verdict of
    `ManifestPack::check` after any history of rewrites is the verdict before it (the CRC-checked
    header and check block are untouched and the masked prefix is identical). -/
theorem c12_check_unchanged (H : Bytes → Bytes) (f : Bytes) (h : PackHeader) (m : ManifestHeader)
    (base : Nat) (infos : List PackInfo) (S : ManifestLayout f h m base infos)
    (ops : List (Bytes × Bytes)) (hl : ∀ op ∈ ops, op.2.length ≤ Consts.locationPad) :
    manifestCheck H (ops.foldl (fun (st : Bytes × List PackInfo) op =>
        (fileStep base st.2 st.1 op, specStep st.2 op)) (f, infos)).1 = manifestCheck H f :=
  manifestCheck_histories H f h m base infos S ops hl

/-- the layout hypothesis is satisfiable by exactly what the creator writes (non-vacuity) -/
example := @ManifestLayout.of_concat

/-- the masked check stream under which `c12_check_unchanged` holds is the translated body of
    `ManifestCheckStream::read` (see `c04_check_stream_is_source_stream`) -/
theorem c12_check_stream_is_source_stream (packOff n pos : Nat) (src : Bytes) (req : Nat) :
    checkStreamRead packOff n pos src req =
      (let r := Generated.checkStreamStep packInfoBlockSize packOff (packOff + n * packInfoBlockSize) pos req
       (if r.2 then zeros (src.take r.1).length else src.take r.1, src.drop r.1)) :=
  gen_checkStreamRead packOff n pos src req

/-- **The offsets of the pack infos are the source's**: `PackOffsetsIter::new` / `next`
    (`reader/manifest_pack.rs`, used by `ManifestPack::new` and by `tools::set_location`), translated on every
    run and run until exhaustion, enumerate exactly `packInfosOffset checkInfoPos count + k * 256`, `k < count` —
    the offsets the model reads the pack infos at and rewrites a location at. -/
theorem c12_pack_info_offsets_are_source_offsets (cip count : Nat) :
    drainOffsets packInfoBlockSize (count + 1) (Generated.packOffsetsNew packInfoBlockSize cip count).1
        (Generated.packOffsetsNew packInfoBlockSize cip count).2 =
      (List.range count).map (fun k => packInfosOffset cip count + k * packInfoBlockSize) :=
  gen_packOffsets cip count

/-- **The manifest is opened as the source opens it**: `manifestOpen` of the model agrees with `ManifestPack::new`
    as translated from `reader/manifest_pack.rs` on every run (pack infos at the offsets of the translated
    iterator, directory pack info apart, others in order, value store, the `unwrap()` of the directory info). -/
theorem c12_manifest_open_is_source_open (f : Bytes)
    (hU : ∀ hd h mb m, readBlock f 0 60 = .ok hd → PackHeader.decode hd = .ok h → readBlock f 64 60 = .ok mb →
      ManifestHeader.decode mb = .ok m → m.packCount * packInfoBlockSize ≤ h.checkInfoPos) :
    ((Generated.manifestPackNew
        ((readBlock f 0 60).bind fun hd => PackHeader.decode hd)
        ((readBlock f 64 60).bind fun mb => ManifestHeader.decode mb)
        (fun h m => (List.range m.packCount).map (fun k => packInfosOffset h.checkInfoPos m.packCount + k * packInfoBlockSize))
        (fun off => (readBlock f off 252).bind fun pb => PackInfo.decode pb)
        (fun so => valueStoreOpen f so)).map' (fun r => (r.1, r.2.1, r.2.2.1, r.2.2.2.1))).Same
      ((manifestOpen f).bind fun r =>
        match (r.2.2.filter isDir).getLast? with
        | some d => .ok (r.1, r.2.1, d, r.2.2.filter (fun i => !isDir i))
        | none => .panic "") :=
  gen_manifestOpen f hU

/-- **The pack info `set_location` rewrites is parsed as the source parses it**: `PackInfo::parse` translated on
    every run equals `PackInfo.decode` on every 252-byte block — in particular the location is the p-string at
    offset 38 of the block and the rest of its 213-byte field is skipped, whatever its length up to 213. -/
theorem c12_pack_info_parser_is_source_parser (bs : Bytes) (h252 : bs.length = 252) :
    (Generated.packInfoParse bs).map' (fun r => tupleToInfo r.1) = PackInfo.decode bs :=
  gen_packInfoParse bs h252

end Jubako
