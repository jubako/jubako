/-
C02 — entries read back with exactly the property values they were written with.
-/
import JubakoModel.Lemmas.DirFile
import JubakoModel.Lemmas.FuncsBytes
import JubakoModel.Lemmas.FuncsDir
import JubakoModel.Lemmas.FuncsSearch
import JubakoModel.Lemmas.FuncsStats
import JubakoModel.Lemmas.FuncsEntry
import JubakoModel.Lemmas.FuncsParse
import JubakoModel.Lemmas.FuncsOpen
import JubakoModel.Lemmas.FuncsCluster

namespace Jubako

/-- `RangeTrait::get_entry(id)` on a window `(offset, count)` of a store holding `n` entries:
    the absolute entry index handed to the builder, or `none` -/
def windowGet (offset count n k : Nat) : Option Nat :=
  if k < count then (if offset + k < n then some (offset + k) else none) else none

/-- **Each index exposes exactly its declared window, in order, and nothing beyond it.** -/
theorem c02_window (offset count n : Nat) (hin : offset + count ≤ n) :
    (∀ k, k < count → windowGet offset count n k = some (offset + k)) ∧
    (∀ k, count ≤ k → windowGet offset count n k = none) := by
  constructor
  · intro k hk; simp only [windowGet, hk, if_true]; rw [if_pos (by omega)]
  · intro k hk; simp only [windowGet]; rw [if_neg (by omega)]

/-! ### Integer columns: the width rule never alters a value, and a too-narrow width would -/

/-- every value of an unsigned column survives the column's width `needed_bytes(max)` -/
theorem c02_uint_roundtrip (col : List Nat) (v : Nat) (h : v ∈ col) :
    leNat (leBytes v (neededBytes (listMax col))) = v := uint_roundtrip col v h

/-- … whereas a width that does not fit alters it (what the silent truncation of the writer would
    do: `Representable` is exactly "fits") -/
theorem c02_uint_narrow_alters (v n : Nat) (h : 256 ^ n ≤ v) : leNat (leBytes v n) ≠ v :=
  uint_narrow_alters v n h

/-- two's complement on `n` bytes round-trips exactly the values that fit `n` bytes (sign bit
    included) — `c02_int_width` of the design -/
theorem c02_int_width (v : Int) (n : Nat) (hn : 1 ≤ n) (hn8 : n ≤ 8)
    (hr : -(2 ^ 63 : Int) ≤ v ∧ v < 2 ^ 63) :
    fitsSigned v n ↔ signExtend (leNat (leBytesInt v n)) n = v :=
  ⟨sint_roundtrip v n hn hn8, fun h => Classical.byContradiction fun hf =>
    sint_narrow_alters v n hn hf h⟩

/-- every value of a signed column — negative ones and those needing the sign bit included — fits
    the width the repaired creator derives from `signed_size_key`, and that width is minimal -/
theorem c02_sint_column (col : List Int) (hr : ∀ x ∈ col, -(2 ^ 63 : Int) ≤ x ∧ x < 2 ^ 63)
    (v : Int) (h : v ∈ col) :
    signExtend (leNat (leBytesInt v (neededBytes (listMax (col.map signedSizeKey)))))
      (neededBytes (listMax (col.map signedSizeKey))) = v :=
  have ⟨h1, h8⟩ := neededBytes_listMax_bounds col signedSizeKey 8 (by decide)
    (fun w _ => Nat.lt_trans (signedSizeKey_lt w) (by decide))
  sint_roundtrip v _ h1 h8 (sint_column_fits col hr v h)

theorem c02_sint_width_minimal (v : Int) (hr : -(2 ^ 63 : Int) ≤ v ∧ v < 2 ^ 63) (n : Nat) (hn : 1 ≤ n)
    (hf : fitsSigned v n) : neededBytes (signedSizeKey v) ≤ n := signedSizeKey_min v n hn hf

/-- every property header the creator writes is parsed back to the same property (kind, sizes,
    default value, name), whatever follows it in the tail -/
theorem c02_property_header_roundtrip (p : RawProp) (rest : Bytes) (hw : p.Writable) :
    RawProp.decode (p.encode ++ rest) = .ok (p, rest) := rawProp_roundtrip p rest hw

/-- variants are padded to exactly the size of the largest one, with padding chunks of 1..16 bytes -/
theorem c02_variant_padding (n : Nat) :
    propsSize (paddingProps n) = n ∧ ∀ p ∈ paddingProps n, p.kind = .padding ∧ 1 ≤ p.size ∧ p.size ≤ 16 :=
  ⟨paddingProps_size n, paddingProps_kind n⟩

/-- non-vacuity: the signed values the pinned code altered are covered -/
example : fitsSigned 128 2 ∧ ¬ fitsSigned 128 1 ∧ fitsSigned (-300) 2 ∧ neededBytes (signedSizeKey 128) = 2 ∧
    neededBytes (signedSizeKey (-300)) = 2 ∧ neededBytes (signedSizeKey (-128)) = 1 := by
  refine ⟨by unfold fitsSigned; omega, by unfold fitsSigned; omega, by unfold fitsSigned; omega, by decide, by decide, by decide⟩

/-- **File-level round trip of the directory pack.**  For every writer input `d` (value store
    kinds, schema with variants, entries in stored order, index definitions) that is well formed
    (`DirIn.WF`: names are p-strings, array prefixes ≤ 31 bytes, store indexes exist, at most 255
    stores; every entry carries a variant id iff the schema has variants, one value per property,
    of the declared type, integers within 64 bits, arrays shorter than 2^24 bytes, pack ids
    within 16 bits and content ids within 32 bits) and within the size limits of the format
    (`DirIn.Limits`), decoding entry `i` of the only entry store out of the bytes of the written
    pack returns exactly the variant id and the values of the `i`-th entry given to the writer,
    each paired with its property name, common properties first.

    The composition is the one the correspondence check runs: `dp.encode` = `dirPackWrite`
    (`VStore.finalize` per store, `finalizeSchema`, `serializeEntry`, tails and tables),
    `dp.decode` = `dirGetEntry` (`directoryOpen`, `entryStoreOpen`, `Layout.decode`,
    `valueStoreOpen`, `decodeEntry`).  `H` (the hash of the check block) is arbitrary. -/
theorem c02_file_roundtrip (H : Bytes → Bytes) (vendor uuid freeData : Bytes) (d : DirIn)
    (hwf : d.WF) (hl : d.Limits H vendor uuid freeData) (i : Nat) (hi : i < d.entries.length) :
    dirGetEntry (dirPackWrite H vendor uuid freeData d) 0 i =
      .ok (expectedEntry d.schema d.entries[i]) :=
  dirGetEntry_dirPackWrite H vendor uuid freeData d hwf hl i hi

/-- … and beyond the stored entries the reader finds nothing -/
theorem c02_file_past_end (H : Bytes → Bytes) (vendor uuid freeData : Bytes)
    (d : DirIn) (hwf : d.WF) (hl : d.Limits H vendor uuid freeData) (i : Nat)
    (hi : d.entries.length ≤ i) :
    dirGetEntry (dirPackWrite H vendor uuid freeData d) 0 i = .err .other :=
  dirGetEntry_dirPackWrite_none H vendor uuid freeData d hwf hl i hi

/-- non-vacuity: the three example inputs of Lemmas/DirFile.lean satisfy `DirIn.WF` and
    `DirIn.Limits` (by `decide` / computation), among them unsigned, signed (−129, 128, ±2^15
    boundary), arrays with inline prefix + plain-store remainder, indirect arrays in an indexed
    store, two variants with padding, a content address column with a constant pack id -/
example := @DirFileExample.input
example := @DirFileExample.input2

/-! ### Ties to the source -/

/-- **The column-width rules of the writer model are the bodies of `needed_bytes` and
    `signed_size_key` as translated from the Rust source on every run**: widths are
    `needed_bytes` of the column maximum, and a signed column's maximum is taken over
    `signed_size_key` of its values (for every `i64`). -/
theorem c02_width_rules_are_source_rules :
    (∀ v, Generated.neededBytes v = some (neededBytes v)) ∧
    (∀ v : Int, -(2 : Int) ^ 63 ≤ v → v < (2 : Int) ^ 63 → (signedSizeKey v : Int) = Generated.signedSizeKey v) :=
  ⟨gen_neededBytes, gen_signedSizeKey⟩

/-- non-vacuity: the translated key at the boundaries the signed-width defect (D3) was about -/
example : Generated.signedSizeKey 127 = 254 ∧ Generated.signedSizeKey 128 = 256 ∧ Generated.signedSizeKey (-128) = 254 ∧
          Generated.signedSizeKey (-129) = 256 ∧ Generated.signedSizeKey (-9223372036854775808) = 9223372036854775807 := by decide

/-- **The window rule of `c02_window` is the body of `RangeTrait::get_entry` translated on every run**,
    followed by the store's own bound. -/
theorem c02_window_is_source_window (offset count n k : Nat) :
    windowGet offset count n k =
      (Generated.rangeGetEntry offset count k).bind (fun i => if i < n then some i else none) := by
  rw [gen_rangeGetEntry]
  unfold windowGet
  by_cases h : k < count <;> simp [h]

/-- **The column statistics of the writer model are the source's**: `ValueCounter::process` folded over a
    column and converted (`Option::from`) is `constantOf` — a column is stored as a default exactly when it
    is not empty and all its values are equal — and `PropertySize::process` folded over a column and converted
    (`ByteSize::from`) is `neededBytes (listMax column)`; both bodies, and the two enums, are translated from
    `creator/directory_pack/schema/property.rs` on every run. -/
theorem c02_column_statistics_are_source_statistics :
    (∀ col : List Int,
      Generated.valueCounterDefault (col.foldl Generated.valueCounterProcess Generated.SrcCounter.none) = constantOf col) ∧
    (∀ col : List Nat,
      Generated.propertySizeBytes ((col.map (fun (v : Nat) => (v : Int))).foldl Generated.propertySizeProcess (Generated.SrcSize.auto 0)) =
        neededBytes (listMax col)) :=
  ⟨gen_valueCounter, gen_propertySize⟩

/-- **The writer model's column finalisation is the source's, kind by kind**: feeding a column to the
    translated `Property::process` (schema/property.rs — the per-entry statistics dispatcher) and then the
    translated `Property::finalize` gives, for unsigned, signed (values within `i64`), content-address and
    array columns (inline prefix below 256 bytes, not the indirect-array case of an indexed store), exactly
    the layout property `finalizeProp` of the writer model computes: same width, same default, same
    length-field size, same key size.  `process` never panics on a value of the column's own kind (it
    returns `some`).  Both bodies and the enums `Property` / `Value` are translated on every run. -/
theorem c02_column_finalisation_is_source_finalisation (stores : List VStore) (name : Bytes) (col : List Val) :
    (∀ keySize, (∀ v ∈ col, ∃ n, v = .u n) →
      ∃ p', processColumn (.unsignedInt .none (.auto 0) name) (col.map (fun v => Generated.SrcValue.unsigned (uintOf v : Int))) = some p' ∧
        (finalizeProp stores ⟨name, .uint⟩ col).toSrc = some (Generated.schemaPropertyFinalize keySize p')) ∧
    (∀ keySize, (∀ v ∈ col, -(2 : Int) ^ 63 ≤ sintOf v ∧ sintOf v < (2 : Int) ^ 63) →
      ∃ p', processColumn (.signedInt .none (.auto 0) name) (col.map (fun v => Generated.SrcValue.signed (sintOf v))) = some p' ∧
        (finalizeProp stores ⟨name, .sint⟩ col).toSrc = some (Generated.schemaPropertyFinalize keySize p')) ∧
    (∀ keySize,
      ∃ p', processColumn (.contentAddress .none (.auto 0) (.auto 0) name)
          (col.map (fun v => Generated.SrcValue.content ((packOf v : Int), (cidOf v : Int)))) = some p' ∧
        (finalizeProp stores ⟨name, .content⟩ col).toSrc = some (Generated.schemaPropertyFinalize keySize p')) ∧
    (∀ fixed st, fixed < 256 → ¬ (fixed = 0 ∧ (stores.getD st ⟨false, []⟩).indexed) →
      ∃ p', processColumn (.array (.auto 0) fixed st name)
          (col.map (fun v => Generated.SrcValue.array (((arrayOf v).length : Nat) : Int))) = some p' ∧
        (finalizeProp stores ⟨name, .array fixed st⟩ col).toSrc =
          some (Generated.schemaPropertyFinalize (fun s => (stores.getD s ⟨false, []⟩).keySize) p')) :=
  ⟨fun ks _ => gen_finalize_uint stores ks name col,
   fun ks h => gen_finalize_sint stores ks name col h,
   fun ks => gen_finalize_content stores ks name col,
   fun fixed st hf hi => gen_finalize_array stores name fixed st col hf hi⟩

/-- non-vacuity: a two-entry unsigned column is finalised to a one-byte field without a default, and the
    translated dispatcher agrees -/
example : (finalizeProp [] ⟨[110], .uint⟩ [.u 3, .u 200]).toSrc =
    (processColumn (.unsignedInt .none (.auto 0) [110]) [.unsigned 3, .unsigned 200]).map (Generated.schemaPropertyFinalize (fun _ => 0)) := by
  decide

/-- a finalised property accepts every value of the column it was finalised over (a default is only set when
    every value of the column equals it; array properties always refer to their value store) -/
theorem finalizeProp_valueOK (stores : List VStore) (pd : PropDef) (col : List Val) (v : Val) (hv : v ∈ col) :
    (finalizeProp stores pd col).ValueOK v := by
  unfold finalizeProp
  cases pd.ty with
  | uint =>
    cases hc : constantOf (col.map uintOf) with
    | none => simp [RawProp.ValueOK]
    | some d => simp [RawProp.ValueOK, (constantOf_some _ _ hc).2 _ (List.mem_map_of_mem hv)]
  | sint =>
    cases hc : constantOf (col.map sintOf) with
    | none => simp [RawProp.ValueOK]
    | some d => simp [RawProp.ValueOK, (constantOf_some _ _ hc).2 _ (List.mem_map_of_mem hv)]
  | content =>
    cases hc : constantOf (col.map packOf) with
    | none => simp [RawProp.ValueOK]
    | some d => simp [RawProp.ValueOK, (constantOf_some _ _ hc).2 _ (List.mem_map_of_mem hv)]
  | array fixed store => simp only []; split <;> simp [RawProp.ValueOK]

/-- **The entry serialiser of the writer model is the source's.**  Translated on every run from
    `creator/directory_pack/layout/{property,properties}.rs`:
    * `Property::size` gives, for every finalised property within the header ranges, the size the model's
      layout records (the sum of these is the entry size the reader steps by);
    * `Properties::fill_to_size` terminates and appends exactly the model's variant paddings, for all sizes;
    * the per-key body of `Properties::serialize_entry`, run key after key over a layout, never errs or panics
      on values accepted by the properties (`ValueOK` — which every value of a finalised column is) and writes
      exactly the bytes of the model's `serializeProps`: integers little-endian in the property's width
      (signed ones in two's complement), nothing for a property with a default, pack id then content id,
      array length then inline prefix zero-filled to the inline length then the value-store key, zero bytes
      for paddings, the variant number for the variant id. -/
theorem c02_entry_serialiser_is_source_serialiser (stores : List VStore) :
    (∀ pd col src, (finalizeProp stores pd col).HeaderWF → (finalizeProp stores pd col).toSrc = some src →
      Generated.layoutPropertySize src = (finalizeProp stores pd col).size) ∧
    (∀ cur size, Generated.fillToSize cur size = some ((paddingProps (size - cur)).map (·.size))) ∧
    (∀ pd col v, v ∈ col → (finalizeProp stores pd col).ValueOK v) ∧
    (∀ variant ps vals, (∀ x ∈ pairProps ps vals, x.1.ValueOK x.2) →
      (entryWrites variant (srcPairs stores (pairProps ps vals))).map writesBytes =
        some (serializeProps stores variant ps vals)) :=
  ⟨fun pd col src hw hs => gen_layoutPropertySize _ src hs hw (finalizeProp_kindSize stores pd col),
   gen_fillToSize,
   finalizeProp_valueOK stores,
   fun variant ps vals h => gen_serializeProps stores variant ps vals h⟩

/-- non-vacuity: an entry with an unsigned, a defaulted signed, a content address and an array with a
    two-byte inline prefix — the translated loop writes what the model writes -/
example :
    let stores : List VStore := [⟨false, [[3, 4]]⟩]
    let ps : List RawProp := [⟨2, [120], .uint 2 none⟩, ⟨0, [121], .sint 1 (some (-2))⟩, ⟨3, [99], .content 1 2 none⟩,
      ⟨4, [97], .array (some 1) 2 (some (1, 0)) none⟩, ⟨3, [], .padding⟩]
    let vals : List Val := [.u 513, .s (-2), .content 1 300, .arr [1, 2, 3, 4]]
    (entryWrites none (srcPairs stores (pairProps ps vals))).map writesBytes = some (serializeProps stores none ps vals) ∧
      serializeProps stores none ps vals = [1, 2, 1, 44, 1, 4, 1, 2, 0, 0, 0, 0] := by
  decide

/-- **Reading a value out of an entry follows the source**: `IntProperty::create`, `SignedProperty::create`
    and `ContentProperty::create` (`reader/directory_pack/builder/property.rs`), translated on every run, are
    `decodeProp` of the reader model for unsigned, signed and content-address properties stored in the entry or
    defaulted, and for integers deported to a value store (the entry holds the key): same value, same error when the entry is too short — for every entry, offset and width (the
    special cases of the source for 1, 2, 4 and 8 bytes included). -/
theorem c02_value_decoding_is_source_decoding (stores : Nat → Outcome (ValueStoreTail × Bytes)) (e : Bytes) (off : Nat) (nm : Bytes)
    (g : Nat → Nat → Option Nat → Outcome Bytes) :
    (∀ sz dflt, (Generated.intPropertyCreate e off sz dflt none g).map' Val.u = decodeProp stores e ⟨off, nm, .uint sz dflt⟩) ∧
    (∀ sz dflt, (Generated.signedPropertyCreate e off sz dflt none g).map' Val.s = decodeProp stores e ⟨off, nm, .sint sz dflt⟩) ∧
    (∀ ps cs dflt, 1 ≤ ps → 1 ≤ cs → cs ≤ 4 →
      (Generated.contentPropertyCreate (e.drop off) dflt ps cs).map' (fun x => Val.content x.1.1 x.1.2) =
        decodeProp stores e ⟨off, nm, .content ps cs dflt⟩) ∧
    (∀ vs sz ks store, stores store = .ok vs → sz < 256 →
      (Generated.intPropertyCreate e off sz none (some (ks, store)) (fun _ key size => valueStoreGet vs key size)).map' Val.u =
          decodeProp stores e ⟨off, nm, .deportedInt false sz store (.inr ks)⟩ ∧
      (Generated.signedPropertyCreate e off sz none (some (ks, store)) (fun _ key size => valueStoreGet vs key size)).map' Val.s =
          decodeProp stores e ⟨off, nm, .deportedInt true sz store (.inr ks)⟩) :=
  ⟨fun sz dflt => gen_intPropertyCreate stores e off sz nm dflt g,
   fun sz dflt => gen_signedPropertyCreate stores e off sz nm dflt g,
   fun ps cs dflt h1 h2 h3 => gen_contentPropertyCreate stores e off ps cs nm dflt h1 h2 h3,
   fun vs sz ks store hs hsz => ⟨gen_deportedIntCreate stores vs e off sz ks store nm hs hsz,
     gen_deportedSignedCreate stores vs e off sz ks store nm hs hsz⟩⟩

/-- **Reading an array out of an entry follows the source**: `ArrayProperty::create` translated on every run,
    followed by `resolveArray` (`Array::resolve_to_vec`), is `decodeProp` of the reader model for array
    properties (length field, inline prefix, value-store key; or the header's default), up to the text of the
    panic of `value_id.unwrap()`. -/
theorem c02_array_decoding_is_source_decoding (stores : Nat → Outcome (ValueStoreTail × Bytes)) (e : Bytes) (off : Nat) (nm : Bytes)
    (lenSize : Option Nat) (fixedLen : Nat) (dep : Option (Nat × Nat)) (dflt : Option (Nat × Bytes × Option Nat))
    (hoff : off ≤ e.length) (hl : ∀ l, lenSize = some l → 1 ≤ l ∧ l ≤ 3) (hd : ∀ ks st, dep = some (ks, st) → 1 ≤ ks) :
    ((Generated.arrayPropertyCreate (e.drop off) lenSize fixedLen dep dflt).bind fun r =>
        (resolveArray stores r.1 r.2.1 fixedLen r.2.2).map' Val.arr).Same
      (decodeProp stores e ⟨off, nm, .array lenSize fixedLen dep dflt⟩) :=
  gen_arrayPropertyCreate stores e off nm lenSize fixedLen dep dflt hoff hl hd

/-- **A directory pack is opened as the source opens it**: `directoryOpen` is `DirectoryPack::new` as translated
    from `reader/directory_pack/mod.rs` on every run: pack header of kind "directory", directory-pack header,
    then the three pointer tables (value stores, entry stores, indexes) read as one checked block each. -/
theorem c02_directory_open_is_source_open (f : Bytes) :
    directoryOpen f =
      Generated.directoryPackNew ((readBlock f 0 60).bind fun hd => PackHeader.decode hd)
        ((readBlock f 64 60).bind fun db => DirectoryHeader.decode db)
        (fun w pos count => readBlock f pos (w * count)) :=
  gen_directoryOpen f

/-- **Value-store keys are sized as the source sizes them** (`key_size` of both store kinds, translated on every
    run): by the data size for a plain store, by the number of values for an indexed one. -/
theorem c02_key_size_is_source_key_size (s : VStore) :
    s.keySize = if s.indexed then Generated.indexedStoreKeySize s.values.length else Generated.plainStoreKeySize s.dataSize :=
  gen_keySize s

/-- **The tail of a value store — where every value starts and ends — is decoded as the source decodes it**:
    `ValueStoreBuilder::parse` translated on every run equals `valueStoreTailDecode` on every byte string, the
    offsets loop of the indexed kind included (up to the text of the panic of its bound assertion). -/
theorem c02_value_store_tail_parser_is_source_parser (bs : Bytes) :
    ((Generated.valueStoreBuilderParse bs).map' (fun r => r.1)).Same ((valueStoreTailDecode bs).map' vsTailToSrc) :=
  gen_valueStoreBuilderParse bs

end Jubako
