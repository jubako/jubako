/-
C06 — reading a damaged or truncated file returns a value or an error, never crashes.

Proved for **every** byte string: the part of the reader that faces arbitrary bytes with no checksum
in front of it (blind open: header at 0, mirrored tail, container pack framing, every locator), where
the crash families D10 and D11 of the pinned code lived (decoder protocol: Theorems/C07.lean).
Below that layer every decision is taken on bytes that passed a CRC; the outcome classes of the
whole reader on damaged files are compared with the implementation's by the correspondence
(`ct.read`), in debug and release builds.
-/
import JubakoModel.Lemmas.DamageDir
import JubakoModel.Lemmas.NoCrashOpen
import JubakoModel.Lemmas.Verbatim
import JubakoModel.Lemmas.FuncsSync
import JubakoModel.Lemmas.FuncsParse
import JubakoModel.Lemmas.FuncsOpen
import JubakoModel.Lemmas.FuncsCluster

namespace Jubako

/-- **Blind open never crashes**: for every byte string — empty, shorter than a header, random,
    truncated at any length, a valid file with any damage — `open_as_container_pack` (repaired
    code) returns a list of packs or an error. -/
theorem c06_blindOpen_no_crash (f : Bytes) : (blindOpen f).isValueOrError = true :=
  blindOpen_no_crash f

/-- … hence locating a pack through the file system (`FsLocator`) never crashes either, whatever
    files the directory holds -/
theorem c06_fsLocate_no_crash (fs : FS) (u : Bytes) (loc : String) :
    (fsLocate fs u loc).isValueOrError = true :=
  fsLocate_no_crash fs u loc

/-- non-vacuity / witnesses of the repaired behaviour: the inputs that crashed the pinned code -/
example : (blindOpen []).isValueOrError = true ∧ (blindOpen []).isOk = false := by decide
example : (blindOpen (List.replicate 59 7)).isOk = false := by decide
example : (blindOpen (List.replicate 63 0)).isValueOrError = true := c06_blindOpen_no_crash _

/-! ### File level: every read of a damaged copy of a written pack ends with a value or an error

The reader model contains the panic sites of the Rust reader that sit *behind* a CRC (unchecked
subtractions on stored offsets, `todo!()` on unknown kinds, index out of bounds …); none of them is
reachable from a damaged copy (`BlocksAgree`, Lemmas/Damage.lean) of a file the creator wrote. -/

/-- **Directory pack**: reading any stored entry out of any damaged copy never crashes -/
theorem c06_file_directory_no_crash (H : Bytes → Bytes) (vendor uuid freeData : Bytes) (d : DirIn)
    (hwf : d.WF) (hl : d.Limits H vendor uuid freeData) (g : Bytes)
    (hD : BlocksAgree (dirPackWrite H vendor uuid freeData d) g) (i : Nat) (hi : i < d.entries.length) :
    (dirGetEntry g 0 i).isValueOrError = true :=
  (dirGetEntry_follows hD 0 i (entryStoreInBlock_dirPackWrite H vendor uuid freeData d hwf hl)).no_crash
    (dirGetEntry_dirPackWrite H vendor uuid freeData d hwf hl i hi)

/-- … in particular out of the file truncated at any length … -/
theorem c06_file_directory_truncated (H : Bytes → Bytes) (vendor uuid freeData : Bytes) (d : DirIn)
    (hwf : d.WF) (hl : d.Limits H vendor uuid freeData) (n : Nat) (i : Nat) (hi : i < d.entries.length) :
    (dirGetEntry ((dirPackWrite H vendor uuid freeData d).take n) 0 i).isValueOrError = true :=
  c06_file_directory_no_crash H vendor uuid freeData d hwf hl _ (BlocksAgree.take _ n) i hi

/-- … extended with any garbage … -/
theorem c06_file_directory_extended (H : Bytes → Bytes) (vendor uuid freeData : Bytes) (d : DirIn)
    (hwf : d.WF) (hl : d.Limits H vendor uuid freeData) (junk : Bytes) (i : Nat) (hi : i < d.entries.length) :
    (dirGetEntry (dirPackWrite H vendor uuid freeData d ++ junk) 0 i).isValueOrError = true :=
  c06_file_directory_no_crash H vendor uuid freeData d hwf hl _ (BlocksAgree.append _ junk) i hi

/-- … or with any one byte overwritten -/
theorem c06_file_directory_single_byte (H : Bytes → Bytes) (vendor uuid freeData : Bytes) (d : DirIn)
    (hwf : d.WF) (hl : d.Limits H vendor uuid freeData) (pos : Nat) (b : UInt8) (i : Nat)
    (hi : i < d.entries.length) :
    (dirGetEntry ((dirPackWrite H vendor uuid freeData d).set pos b) 0 i).isValueOrError = true :=
  c06_file_directory_no_crash H vendor uuid freeData d hwf hl _ (BlocksAgree.set _ pos b) i hi

/-- **Content pack**: reading any content id — stored or past the end — out of any damaged copy
    never crashes, whatever the decoder delivers for a damaged compressed payload (repaired decoder
    protocol, D11: an error or a short output reaches the reader as an I/O error) -/
theorem c06_file_content_no_crash (H : Bytes → Bytes) (codec : Codec) (hcodec : codec.Sound)
    (hbyte : codec.byte ≤ 3) (m : ContentPackMeta) (hm : m.WF)
    (items : List Item) (arrival : List Cluster)
    (hp : arrival.Perm ((Creator.init.addAll items).finalize).1)
    (hcomp : codec.byte = 0 → ∀ it ∈ items, it.comp = false)
    (hcount : items.length < 2 ^ 32) (hncl : arrival.length ≤ 2 ^ 20)
    (hdata : totalSize items < 2 ^ 64)
    (hsize : (contentPackWrite H codec m arrival ((Creator.init.addAll items).finalize).2).length < 2 ^ 48)
    (g : Bytes)
    (hD : BlocksAgree (contentPackWrite H codec m arrival ((Creator.init.addAll items).finalize).2) g)
    (i : Nat) : (contentGet codec.decompress' g i).isValueOrError = true := by
  by_cases hi : i < items.length
  · exact (contentGet_follows hD _ i).no_crash
      (contentGet_contentPackWrite hcodec ⟨hbyte, hm, hp, hcomp, hcount, hncl, hdata, hsize⟩ i hi)
  · exact (contentGet_follows hD _ i).no_crash
      (contentGet_contentPackWrite_none H codec m hm items arrival hcount hncl hsize i (by omega))

/-- the same for any damaged copy of any file on which the manifest reader succeeds -/
theorem c06_manifest_no_crash (f g : Bytes) (hD : BlocksAgree f g)
    (v : PackHeader × ManifestHeader × List PackInfo) (hf : manifestOpen f = .ok v) :
    (manifestOpen g).isValueOrError = true :=
  (manifestOpen_follows hD).no_crash hf

/-- non-vacuity: the example content pack of Lemmas/ContentFile.lean truncated at any length -/
example (n i : Nat) :
    (contentGet ContentFileExample.codec.decompress'
      ((contentPackWrite ContentFileExample.hash ContentFileExample.codec ContentFileExample.pmeta
        ContentFileExample.arrival ((Creator.init.addAll ContentFileExample.items).finalize).2).take n)
      i).isValueOrError = true :=
  c06_file_content_no_crash _ _ ContentFileExample.codec_sound (by decide) _ ContentFileExample.pmeta_wf _ _
    ContentFileExample.arrival_perm (by decide) (by decide) (by decide) (by decide)
    ContentFileExample.size_ok _ (BlocksAgree.take _ n) i

/-- the decoder protocol under which no reader is left waiting (`c07_progress`, failure included) is the
    statement sequence of `decode_to_end` extracted from the source on every run: on a failing read the
    failure is recorded under the lock, every waiter is notified, and the decoder stops -/
theorem c06_decoder_protocol_is_source_protocol :
    Generated.svDecoderLoopShape = decoderTurnStmts ∧ Generated.svDecoderOkShape = decoderPublishStmts ∧
    Generated.svDecoderErrShape = decoderFailStmts :=
  gen_svShapes

/-- **The model's classification of property-header bytes into "value or error" and "crash" is the source's**:
    `RawProperty::parse` translated on every run answers a value or an error exactly on the byte strings on
    which `RawProp.decode` does (the two panics of the source — `todo!()` for the type nibble `0b0100`,
    `array_len_size.unwrap()` for a default array without length field — are where the model has them; they
    sit behind the CRC of the entry-store tail, see the runner). -/
theorem c06_property_parser_crashes_where_source_does (bs : Bytes) :
    (Generated.rawPropertyParse bs).isValueOrError = (RawProp.decode bs).isValueOrError := by
  rw [Outcome.Same.isValueOrError _ _ (gen_rawPropertyParse bs), map'_isValueOrError]

/-- **The blind open whose totality `c06_blindOpen_no_crash` proves is the source's**: `blindOpen` is
    `open_as_container_pack` as translated from `reader/jubako.rs` on every run, applied to the model's header
    parses, cut and container-pack open. -/
theorem c06_blind_open_is_source_open (f : Bytes) :
    blindOpen f =
      Generated.openAsContainerPack f.length
        (if f.length < 60 then .err .format else PackHeader.decode (f.take 60))
        (do let hd ← readBlock f 0 60; PackHeader.decode hd)
        (do let hd ← readBlock (slice f (f.length - 64) 64).reverse 0 60; PackHeader.decode hd)
        (fun origin size => if origin + size ≤ f.length then .ok (origin, size) else .err .format)
        (fun r => containerPackOpen f r.1 r.2)
        (fun r uuid => [⟨uuid, r.1, r.2⟩]) :=
  gen_blindOpen f

/-- **The header decoder whose totality `PackHeader.decode_no_crash` proves is the source's**: `PackHeader::parse`
    translated on every run equals `PackHeader.decode` on every 60-byte block. -/
theorem c06_pack_header_parser_is_source_parser (bs : Bytes) (h60 : bs.length = 60) :
    (Generated.packHeaderParse bs).map' (fun r => tupleToHeader r.1) = PackHeader.decode bs :=
  gen_packHeaderParse bs h60

/-- **The one reachable `todo!()` of the entry-store reader is where the model has it**: `EntryStoreBuilder::parse`
    with `StoreKind::parse`, translated on every run, on the tail block of an entry store: kind 0 then the layout;
    kinds 1 and 2 panic (`todo!()`); any other kind is a format error — `modelEntryTail`, the part of
    `entryStoreOpen` that looks at the tail (`entryStoreOpen_tail`). The kind byte sits behind the CRC of the tail
    block. -/
theorem c06_entry_store_tail_is_source_tail (f : Bytes) (so : Nat × Nat) (tb : Bytes) :
    ((Generated.entryStoreBuilderParse tb (fun bs => (Layout.decode bs).map' (fun l => (l, ([] : Bytes))))).map' (·.1)).Same
        (modelEntryTail tb) ∧
    entryStoreOpen f so =
      (readBlock f so.1 so.2).bind fun tb => (modelEntryTail tb).bind fun l =>
        if l.checked then
          let ds := l.entryCount * (l.entrySize + 4)
          if so.1 < ds then .panic "offset.rs: subtraction underflow"
          else if so.1 ≤ f.length then .ok (l, slice f (so.1 - ds) ds) else .err .format
        else
          let ds := l.entryCount * l.entrySize
          if so.1 < ds + 4 then .panic "offset.rs: subtraction underflow"
          else (readBlock f (so.1 - ds - 4) ds).bind fun d => .ok (l, d) :=
  ⟨gen_entryStoreBuilderParse tb, entryStoreOpen_tail f so⟩

end Jubako
