/-
C05 — damaged metadata is reported, never silently decoded into different values.
-/
import JubakoModel.Lemmas.DamageDir
import JubakoModel.Lemmas.Verbatim
import JubakoModel.Lemmas.FuncsParse
import JubakoModel.Lemmas.FuncsCheck

namespace Jubako

/-- a block is handed to a parser only after its CRC has been verified over exactly the bytes that
    are parsed: whatever `readBlock` returns is the data part of a block whose check passes -/
theorem c05_readBlock_checked (f : Bytes) (off n : Nat) (d : Bytes) (h : readBlock f off n = .ok d) :
    off + n + 4 ≤ f.length ∧ checkBlock (slice f off (n + 4)) = true ∧ d = (slice f off (n + 4)).take n :=
  (readBlock_ok_iff f off n d).1 h

/-- two files that agree on a block's bytes give the same parse of that block: the reader's view
    of a structure depends on nothing but the (verified) bytes of its block -/
theorem c05_block_local (f g : Bytes) (off n : Nat)
    (h : slice f off (n + 4) = slice g off (n + 4)) (hf : off + n + 4 ≤ f.length) (hg : off + n + 4 ≤ g.length) :
    readBlock f off n = readBlock g off n :=
  readBlock_congr h ⟨fun _ => hg, fun _ => hf⟩

/-- **Every alteration confined to 4 consecutive bytes of a block is detected** — data bytes, CRC
    bytes, or a window straddling both; this covers every single-byte alteration (any mask) and
    every alteration of up to 32 consecutive bits, the whole exhaustive family of the property.
    (CRC-32C as coded: polynomial 0x1EDC6F41 from `Generated/Consts.lean`, msb-first, init
    0xFFFFFFFF, no final xor.) -/
theorem c05_crc_detects_window (d alt : Bytes) (hl : alt.length = (block d).length) (i : Nat)
    (hsame : ∀ k, k < alt.length → (k < i ∨ i + 4 ≤ k) → alt[k]? = (block d)[k]?)
    (hdiff : alt ≠ block d) : checkBlock alt = false :=
  crc_detects_window d alt hl i hsame hdiff

/-- … so the reader reports it: a file whose block at `off` was `block d` and that differs from it,
    inside that block, only within 4 consecutive bytes, fails `readBlock` with `Corrupted` instead
    of handing altered bytes to any parser -/
theorem c05_damaged_block_reported (f alt : Bytes) (off : Nat) (d : Bytes)
    (hf : slice f off (d.length + 4) = block d) (hlen : off + d.length + 4 ≤ alt.length)
    (i : Nat)
    (hsame : ∀ k, k < d.length + 4 → (k < i ∨ i + 4 ≤ k) → alt[off + k]? = f[off + k]?)
    (hdiff : slice alt off (d.length + 4) ≠ slice f off (d.length + 4)) :
    readBlock alt off d.length = .err .corrupted := by
  rw [readBlock_eq, if_pos hlen]
  split
  · exact absurd (slice_window_inj (Nat.le_add_left 4 _) (by rw [hf, block_length]) (slice_length (by omega))
      (by rw [hf]; exact checkBlock_block d) ‹_› i hsame) hdiff
  · rfl

/-- the linearity behind it, reusable for wider damage: the check of `block d ⊕ e` passes iff the
    error pattern alone has CRC register 0 — an explicit CRC collision of the pattern -/
theorem c05_collision_characterisation (d e : Bytes) (he : e.length = (block d).length) :
    checkBlock (xorBytes (block d) e) = true ↔ crcFeed crcPolyU 0 e = 0 := by
  have h4 : 4 ≤ (xorBytes (block d) e).length := by
    simp [xorBytes, List.length_zipWith, he, block_length]
  rw [checkBlock_iff _ h4]
  have hz : crcInitU = crcInitU ^^^ 0 := by simp
  rw [hz, crcFeed_xor crcInitU 0 (block d) e he.symm]
  have hb : crcFeed crcPolyU crcInitU (block d) = 0 :=
    (checkBlock_iff _ (by rw [block_length]; omega)).mp (checkBlock_block d)
  rw [hb]; simp

/-! ### File level: damaged copies of written packs

`BlocksAgree f g`, "`g` is a damaged copy of `f`" (Lemmas/Damage.lean), needs **no hypothesis** for
the damage families the property quantifies over exhaustively; for wider overwrites it is exactly
the "no CRC-32 collision" side condition (`c05_collision_characterisation`). -/

/-- truncation at any length is a damaged copy -/
theorem c05_damage_truncation (f : Bytes) (k : Nat) : BlocksAgree f (f.take k) := BlocksAgree.take f k

/-- any bytes appended make a damaged copy -/
theorem c05_damage_extension (f junk : Bytes) : BlocksAgree f (f ++ junk) := BlocksAgree.append f junk

/-- any alteration confined to 4 consecutive bytes makes a damaged copy -/
theorem c05_damage_window (f g : Bytes) (i : Nat)
    (hsame : ∀ k, (k < i ∨ i + 4 ≤ k) → g[k]? = f[k]?) : BlocksAgree f g := BlocksAgree.of_window i fun k _ _ => hsame k

theorem c05_damage_single_byte (f : Bytes) (pos : Nat) (b : UInt8) : BlocksAgree f (f.set pos b) :=
  BlocksAgree.set f pos b

/-- **Directory pack, file level.**  For every well-formed writer input and every damaged copy `g`
    of the bytes the writer produced, entry `i` read out of `g` is exactly the entry that was
    written — variant id and every property value — or the read fails with an error value.  Never
    another value. -/
theorem c05_file_directory_entry (H : Bytes → Bytes) (vendor uuid freeData : Bytes) (d : DirIn)
    (hwf : d.WF) (hl : d.Limits H vendor uuid freeData) (g : Bytes)
    (hD : BlocksAgree (dirPackWrite H vendor uuid freeData d) g) (i : Nat) (hi : i < d.entries.length) :
    dirGetEntry g 0 i = .ok (expectedEntry d.schema d.entries[i]) ∨ ∃ k, dirGetEntry g 0 i = .err k :=
  (dirGetEntry_follows hD 0 i (entryStoreInBlock_dirPackWrite H vendor uuid freeData d hwf hl)).ok_or_err
    (dirGetEntry_dirPackWrite H vendor uuid freeData d hwf hl i hi)

/-- … unconditionally for every single-byte alteration of the written file -/
theorem c05_file_directory_single_byte (H : Bytes → Bytes) (vendor uuid freeData : Bytes) (d : DirIn)
    (hwf : d.WF) (hl : d.Limits H vendor uuid freeData) (pos : Nat) (b : UInt8)
    (i : Nat) (hi : i < d.entries.length) :
    dirGetEntry ((dirPackWrite H vendor uuid freeData d).set pos b) 0 i =
        .ok (expectedEntry d.schema d.entries[i]) ∨
      ∃ k, dirGetEntry ((dirPackWrite H vendor uuid freeData d).set pos b) 0 i = .err k :=
  c05_file_directory_entry H vendor uuid freeData d hwf hl _ (c05_damage_single_byte _ pos b) i hi

/-- **Content pack, file level.**  For every insertion sequence, arrival order and sound codec, and
    every damaged copy `g` of the written pack: content `i` read out of `g` has exactly the stored
    size (only its raw bytes may differ — cluster payloads carry no CRC; that is the case the pack
    check of C04 covers), or the read fails with an error value; a content id past the count is
    still "no such content" or an error.  `decompress'` is whatever the decoder delivers, also on
    a damaged payload. -/
theorem c05_file_content_shape (H : Bytes → Bytes) (codec : Codec) (hcodec : codec.Sound)
    (hbyte : codec.byte ≤ 3) (m : ContentPackMeta) (hm : m.WF)
    (items : List Item) (arrival : List Cluster)
    (hp : arrival.Perm ((Creator.init.addAll items).finalize).1)
    (hcomp : codec.byte = 0 → ∀ it ∈ items, it.comp = false)
    (hcount : items.length < 2 ^ 32) (hncl : arrival.length ≤ 2 ^ 20)
    (hdata : totalSize items < 2 ^ 64)
    (hsize : (contentPackWrite H codec m arrival ((Creator.init.addAll items).finalize).2).length < 2 ^ 48)
    (g : Bytes)
    (hD : BlocksAgree (contentPackWrite H codec m arrival ((Creator.init.addAll items).finalize).2) g) :
    (∀ i (hi : i < items.length),
      (∃ b, contentGet codec.decompress' g i = .ok (some b) ∧ b.length = (items[i]).data.length) ∨
        ∃ k, contentGet codec.decompress' g i = .err k) ∧
    (∀ i, items.length ≤ i →
      contentGet codec.decompress' g i = .ok none ∨ ∃ k, contentGet codec.decompress' g i = .err k) :=
  ⟨fun i hi => by
    rcases contentGet_follows hD _ i _ (contentGet_contentPackWrite hcodec
      ⟨hbyte, hm, hp, hcomp, hcount, hncl, hdata, hsize⟩ i hi) with ⟨r', h1, h2⟩ | he
    · obtain ⟨b, rfl, hb⟩ := h2.of_some
      exact Or.inl ⟨b, h1, hb⟩
    · exact Or.inr he,
   fun i hi => by
    rcases contentGet_follows hD _ i _ (contentGet_contentPackWrite_none H codec m hm items arrival hcount
      hncl hsize i hi) with ⟨r', h1, h2⟩ | he
    · exact Or.inl (h2.of_none ▸ h1)
    · exact Or.inr he⟩

/-- the manifest reader follows too: the pack list of a damaged manifest is the written one, or an error -/
theorem c05_manifest_follows (f g : Bytes) (hD : BlocksAgree f g) (v : PackHeader × ManifestHeader × List PackInfo)
    (hf : manifestOpen f = .ok v) : manifestOpen g = .ok v ∨ ∃ k, manifestOpen g = .err k :=
  (manifestOpen_follows hD).ok_or_err hf

/-- non-vacuity: the example directory pack of Lemmas/DirFile.lean, one byte overwritten -/
example (pos : Nat) (b : UInt8) :
    dirGetEntry ((dirPackWrite DirFileExample.hash DirFileExample.vendor DirFileExample.uuid
        DirFileExample.freeData DirFileExample.input).set pos b) 0 1 =
      .ok (expectedEntry DirFileExample.input.schema DirFileExample.input.entries[1]) ∨
    ∃ k, dirGetEntry ((dirPackWrite DirFileExample.hash DirFileExample.vendor DirFileExample.uuid
        DirFileExample.freeData DirFileExample.input).set pos b) 0 1 = .err k :=
  c05_file_directory_single_byte _ _ _ _ _ DirFileExample.input_wf DirFileExample.limits pos b 1 (by decide)

/-- **An index never disappears silently** (`DirectoryPack::get_index_from_name`, the scan the reader
    model runs, `lookupIndexByName`): if the lookup answers "no such index", then every index tail of
    the pack was read without error and none of them carries the name.  Equivalently: when the tail of
    the named index, or any tail listed before it, is damaged (does not read), the answer is that error —
    never "no such index", never another index. -/
theorem c05_index_lookup_none (ios : List (Outcome IndexInfo)) (name : Bytes)
    (h : lookupIndexByName ios name = .ok none) :
    ∀ r ∈ ios, ∃ i, r = .ok i ∧ i.name ≠ name := by
  -- `lookupIndexByName_ok` says more: see there
  obtain ⟨pre, rest, rfl, hpre, ⟨-, rfl⟩ | ⟨i, _, hr, -⟩⟩ := lookupIndexByName_ok h
  · intro r hr
    obtain ⟨i, hi, rfl⟩ := List.mem_map.1 (by simpa using hr)
    exact ⟨i, rfl, hpre i hi⟩
  · cases hr

/-- … and what it finds is the first index carrying the name, all tails before it having been read. -/
theorem c05_index_lookup_some (ios : List (Outcome IndexInfo)) (name : Bytes) (i : IndexInfo)
    (h : lookupIndexByName ios name = .ok (some i)) :
    i.name = name ∧ .ok i ∈ ios := by
  -- "first" and "all tails before it read" are in `lookupIndexByName_ok`
  obtain ⟨pre, rest, rfl, -, ⟨hr, -⟩ | ⟨j, rest', hr, hn, rfl⟩⟩ := lookupIndexByName_ok h
  · cases hr
  · cases hr
    exact ⟨hn, by simp⟩

/-- non-vacuity: with the tail of the first of two indexes damaged, looking either name up is an error -/
example :
    lookupIndexByName [.err .format, .ok ⟨0, 1, 0, [0, 0, 0, 0], 0, [97]⟩] [109] = .err .format ∧
    lookupIndexByName [.err .format, .ok ⟨0, 1, 0, [0, 0, 0, 0], 0, [97]⟩] [97] = .err .format := ⟨rfl, rfl⟩

/-- **How the reader interprets the bytes of a property header is what the source does** (`RawProperty::parse`
    translated on every run): in particular every byte string the source rejects with a format error is
    rejected by the model, and conversely — a damaged header is never decoded by one and reported by the other. -/
theorem c05_property_parser_is_source_parser (bs : Bytes) :
    (Generated.rawPropertyParse bs).Same ((RawProp.decode bs).map' (fun x => (x.1.toSrcRaw, x.2))) :=
  gen_rawPropertyParse bs

/-- **The check every block read goes through is the source's**: `checkBlock` — over which
    `c05_crc_detects_window` and `c05_damaged_block_reported` are stated — is `assert_slice_crc` as translated from
    `bases/block.rs` on every run: a block is accepted iff the CRC-32C of its data equals its last four bytes read
    big-endian, and refused as "corrupted" otherwise. -/
theorem c05_block_check_is_source_check (full : Bytes) :
    Generated.assertSliceCrc (fun d => (crc32c d).toNat) be32Nat full =
      if checkBlock full then .ok () else .err .corrupted :=
  gen_assertSliceCrc full

end Jubako
