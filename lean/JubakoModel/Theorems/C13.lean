/-
C13 — all views of a stored content (stream, slice, sub-cut, conversions) agree.

Statements over the model of `reader/byte_{region,slice,stream}.rs` and `bases/types/range.rs` (Model/View.lean),
for every source, every region inside it, every nesting of in-range cuts, every sequence of read sizes and every
short-read behaviour of the source.  Out-of-range cuts are outside the property (they are `debug_assert`ed in the
code): hypothesis `CutOk`.
-/
import JubakoModel.Lemmas.View
import JubakoModel.Lemmas.FuncsView

namespace Jubako

/-- a view denotes the bytes of its absolute region -/
theorem c13_bytes_def (v : View) : v.bytes = slice v.src v.r.b (v.r.e - v.r.b) := rfl

/-- a relative cut denotes the corresponding sub-range of the parent's bytes, and stays inside -/
theorem c13_cut (v : View) (hw : v.WF) (off sz : Nat) (hc : v.r.CutOk off sz) :
    (v.cut off sz).bytes = slice v.bytes off sz ∧ (v.cut off sz).WF ∧ (v.cut off sz).size = sz :=
  ⟨v.cut_bytes hw hc, v.cut_WF hw hc, View.cut_size⟩

/-- `get_slice(off, sz)` is the same sub-range -/
theorem c13_getSlice (v : View) (hw : v.WF) (off sz : Nat) (hc : v.r.CutOk off sz) :
    v.getSlice off sz = slice v.bytes off sz :=
  View.cut_bytes hw hc

/-- the whole view through `get_slice(0, size)` -/
theorem c13_getSlice_all (v : View) : v.getSlice 0 v.size = v.bytes := by
  simp [View.getSlice, View.bytes, View.size, Region.cutRel, Region.size]

/-- nested cuts, to any depth: every cut in range of the view it is applied to -/
def ValidNested : View → List (Nat × Nat) → Prop
  | _, [] => True
  | v, (off, sz) :: rest => v.r.CutOk off sz ∧ ValidNested (v.cut off sz) rest

/-- the bytes a chain of cuts must denote, computed on plain byte strings -/
def cutBytes : Bytes → List (Nat × Nat) → Bytes
  | bs, [] => bs
  | bs, (off, sz) :: rest => cutBytes (slice bs off sz) rest

theorem c13_nested_cuts (v : View) (hw : v.WF) (cuts : List (Nat × Nat)) (hv : ValidNested v cuts) :
    let v' := cuts.foldl (fun v c => v.cut c.1 c.2) v
    v'.bytes = cutBytes v.bytes cuts ∧ v'.WF := by
  induction cuts generalizing v with
  | nil => exact ⟨rfl, hw⟩
  | cons c rest ih =>
    obtain ⟨off, sz⟩ := c
    obtain ⟨hc, hrest⟩ := hv
    have h := c13_cut v hw off sz hc
    have := ih (v.cut off sz) h.2.1 hrest
    simp only [List.foldl_cons, cutBytes]
    rw [← h.1]
    exact this

/-- **Streaming any view with any sequence of read sizes and any short-read behaviour** yields a
    prefix of the view's bytes, exactly as long as the reported offset; size, offset and size_left
    are consistent at the end of every such sequence (hence at every step). -/
theorem c13_stream (v : View) (hw : v.WF) (reqs : List (Nat × Nat)) :
    (v.stream.drain reqs).1 = v.bytes.take (v.stream.drain reqs).2.offset ∧
    (v.stream.drain reqs).1.length = (v.stream.drain reqs).2.offset ∧
    (v.stream.drain reqs).2.size = v.size ∧
    (v.stream.drain reqs).2.offset + (v.stream.drain reqs).2.sizeLeft = v.size := by
  obtain ⟨⟨hb, he, hl⟩, hsrc, hr, hle, hout⟩ := v.stream.drain_spec (View.stream_WF hw) reqs
  obtain ⟨h1, h2⟩ := hw
  generalize v.stream.drain reqs = dr at *
  obtain ⟨out, s'⟩ := dr
  simp only [View.stream] at hsrc hr hle hout hb he hl
  simp only [Stream.offset, Stream.size, Stream.sizeLeft, View.size, View.bytes, hr] at *
  refine ⟨?_, ?_, trivial, ?_⟩
  · rw [hout, take_slice]; simp only [Region.size]; omega
  · rw [hout, slice_length]; omega
  · simp only [Region.size]; omega

/-- a stream that reports nothing left has delivered exactly the bytes of the view -/
theorem c13_stream_complete (v : View) (hw : v.WF) (reqs : List (Nat × Nat))
    (hdone : (v.stream.drain reqs).2.sizeLeft = 0) :
    (v.stream.drain reqs).1 = v.bytes := by
  obtain ⟨h1, _, _, h4⟩ := c13_stream v hw reqs
  have hlen := View.bytes_length hw
  rw [h1]
  apply List.take_of_length_le
  omega

/-- a read with a non-empty buffer on a stream with bytes left makes progress (so the
    read-until-zero loop of `read_to_end` terminates with `size_left = 0`) -/
theorem c13_read_progress (s : Stream) (hw : s.WF) (n short : Nat) (hn : 0 < n)
    (hl : 0 < s.sizeLeft) : 0 < (s.read n short).1.length := by
  obtain ⟨k, e, -, -, h3, hp⟩ := s.read_spec n short
  obtain ⟨-, h2, h3'⟩ := hw
  rw [Stream.sizeLeft] at hl
  rw [e, slice_length (by omega)]
  exact hp hn hl (by omega)

/-- conversions: `From<ByteRegion> for ByteStream` is the same stream as `.stream()`;
    `as_slice` / `From<ByteSlice> for ByteRegion` are the identity on (source, region). -/
theorem c13_conversions (v : View) : Stream.ofRegion v = v.stream := rfl

/-- non-vacuity: a content that does not start at offset 0 of its source, cut twice, streamed with
    uneven and short reads -/
example :
    let v : View := ⟨[1, 2, 3, 4, 5, 6, 7, 8, 9, 10], ⟨3, 9⟩⟩
    v.WF ∧ ValidNested v [(1, 4), (2, 2)] ∧
    ((([(1, 4), (2, 2)] : List (Nat × Nat)).foldl (fun v c => v.cut c.1 c.2) v).bytes = [7, 8]) ∧
    (v.stream.drain [(4, 3), (1, 0), (100, 0)]).1 = [4, 5, 6, 7, 8, 9] ∧
    (v.stream.drain [(4, 3), (1, 0), (100, 0)]).2.sizeLeft = 0 := by
  refine ⟨by simp [View.WF], by simp [ValidNested, Region.CutOk, View.cut, Region.cutRel], by decide, by decide, by decide⟩

/-! ### Tie to the source: region and stream arithmetic are the source's bodies -/

/-- **`Region::cut_rel` and `ByteStream::{size, offset, size_left}` of the model are the bodies
    translated from `bases/types/range.rs` and `reader/byte_stream.rs` on every run.** -/
theorem c13_arithmetic_is_source_arithmetic :
    (∀ (r : Region) (off size : Nat),
      ((r.cutRel off size).b, (r.cutRel off size).e) = Generated.regionCutRel r.b r.e off size) ∧
    (∀ s : Stream, s.sizeLeft = Generated.streamSizeLeft s.r.b s.r.e s.cur) ∧
    (∀ s : Stream, s.size = Generated.streamSize s.r.b s.r.e s.cur) ∧
    (∀ s : Stream, s.offset = Generated.streamOffset s.r.b s.r.e s.cur) :=
  ⟨gen_regionCutRel, gen_streamSizeLeft, gen_streamSize, gen_streamOffset⟩

/-- **A read on a stream asks its source for what the source code asks** (`ByteStream::read`, translated on
    every run): at most the buffer, at most what is left of the region. -/
theorem c13_stream_read_is_source_read (s : Stream) (n short : Nat) :
    let req := Generated.streamReadRequest s.r.b s.r.e s.cur n
    let got := if short = 0 then min req (s.src.length - s.cur) else min short (min req (s.src.length - s.cur))
    s.read n short = (slice s.src s.cur got, { s with cur := s.cur + got }) :=
  gen_streamRead s n short

end Jubako
