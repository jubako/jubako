/-
C10 — a container reads the same however its packs are packaged.
Proofs about the container-pack layout and blind open are in Lemmas/Container.lean.
-/
import JubakoModel.Model.Container
import JubakoModel.Lemmas.Container
import JubakoModel.Lemmas.FuncsLookup
import JubakoModel.Lemmas.FuncsOpen

namespace Jubako

/-- **Packs are looked for by identity inside the file at hand first**: a pack present in the
    enclosing container is used whatever its recorded location resolves to. -/
theorem c10_lookup_order (fs : FS) (entryFile : String) (entryPacks : List PackAt) (u : Bytes)
    (loc : String) (p : PackAt) (h : entryPacks.find? (fun q => q.uuid == u) = some p) :
    locate fs entryFile entryPacks u loc = .ok (some ⟨entryFile, p⟩) :=
  locate_enclosed fs entryFile entryPacks u loc p h

/-- … and only then through their recorded location -/
theorem c10_lookup_fallback (fs : FS) (entryFile : String) (entryPacks : List PackAt) (u : Bytes)
    (loc : String) (h : entryPacks.find? (fun q => q.uuid == u) = none) :
    locate fs entryFile entryPacks u loc = fsLocate fs u loc :=
  locate_fs fs entryFile entryPacks u loc h

/-- **A written container pack reads back**: blind open of the file `ContainerPackCreator` /
    `tools::concat` writes (repaired size, D12) finds exactly the packs that were put in, at the
    positions recorded by the locators … -/
theorem c10_container_roundtrip (uuid freeData : Bytes) (packs : List (Bytes × Bytes))
    (hu : uuid.length = 16) (hf : freeData.length = 24) (hpu : ∀ p ∈ packs, p.1.length = 16)
    (hn : packs.length < 2 ^ 16) (hl : (containerPackWrite uuid freeData packs).length < 2 ^ 64) :
    blindOpen (containerPackWrite uuid freeData packs) =
      .ok ((concatLayout packs).2.map (fun l => ⟨l.uuid, l.pos, l.size⟩)) :=
  blindOpen_write_ok uuid freeData packs hu hf hpu hn hl

/-- … and the region a locator designates in the written file is exactly that pack's bytes
    (distinct uuids) -/
theorem c10_locator_region (uuid freeData : Bytes) (packs : List (Bytes × Bytes))
    (hu : uuid.length = 16) (hf : freeData.length = 24) (hn : (packs.map (·.1)).Nodup)
    (u b : Bytes) (h : (u, b) ∈ packs) :
    ((concatLayout packs).2.find? (fun l => l.uuid == u)).map
      (fun l => slice (containerPackWrite uuid freeData packs) l.pos l.size) = some b :=
  containerPackWrite_lookup uuid freeData packs hu hf hn u b h

/-- **Re-assembly by concatenation in any order**: looking a pack up by uuid in the container laid
    out from any permutation of the same packs gives the same bytes (or the same absence). -/
theorem c10_concat_any_order (packs packs' : List (Bytes × Bytes)) (hp : packs.Perm packs')
    (hn : (packs.map (·.1)).Nodup) (u : Bytes) :
    lookupPack (concatLayout packs').1 (concatLayout packs').2 u =
      lookupPack (concatLayout packs).1 (concatLayout packs).2 u :=
  concat_lookup_perm packs packs' hp hn u

/-- **Embedded at the end of another file**: for every prefix whose first bytes are not themselves
    a valid pack header, blind open finds the container through its mirrored tail, with every pack
    region shifted by exactly the prefix length (needs both the tail fallback, D9, and the correct
    declared size, D12). -/
theorem c10_embedded (uuid freeData : Bytes) (packs : List (Bytes × Bytes)) (pre : Bytes)
    (hu : uuid.length = 16) (hf : freeData.length = 24) (hpu : ∀ p ∈ packs, p.1.length = 16)
    (hn : packs.length < 2 ^ 16) (hl : (containerPackWrite uuid freeData packs).length < 2 ^ 64)
    (hv : PackHeader.decode ((pre ++ containerPackWrite uuid freeData packs).take 60) ≠ .err .version)
    (hbad : ∀ h, (do let hd ← readBlock (pre ++ containerPackWrite uuid freeData packs) 0 60
                     PackHeader.decode hd : Outcome PackHeader) ≠ .ok h) :
    blindOpen (pre ++ containerPackWrite uuid freeData packs) =
      .ok ((concatLayout packs).2.map (fun l => ⟨l.uuid, pre.length + l.pos, l.size⟩)) :=
  blindOpen_prefix_write uuid freeData packs pre hu hf hpu hn hl hv hbad

/-- the two prefix hypotheses of `c10_embedded` hold for every prefix that does not start with the
    magic's first byte `j` (non-vacuity, and the common case of a container appended to an
    executable or an image) -/
theorem c10_prefix_hyps (b : UInt8) (rest w : Bytes) (hb : b ≠ 106) :
    PackHeader.decode (((b :: rest) ++ w).take 60) ≠ .err .version ∧
    ∀ h, (do let hd ← readBlock ((b :: rest) ++ w) 0 60
             PackHeader.decode hd : Outcome PackHeader) ≠ .ok h := by
  constructor
  · rw [List.cons_append, List.take_succ_cons, PackHeader.decode_cons_ne_magic hb]; nofun
  · intro h heq
    obtain ⟨hd, hr, hdec⟩ := Outcome.bind_eq_ok.1 heq
    obtain ⟨-, -, rfl⟩ := (readBlock_ok_iff _ 0 60 _).1 hr
    rw [slice, List.cons_append, List.drop_zero, List.take_succ_cons, List.take_succ_cons,
      PackHeader.decode_cons_ne_magic hb] at hdec
    cases hdec

/-- **"Packs are looked for by identity inside the file at hand first and then through their recorded
    location" is the body of `ChainedLocator::locate` as translated from `reader/locator.rs` on every run**:
    the translated loop terminates for every chain and answers with the first locator, in chain order, that
    finds the pack; the reader model's `locate` is that chain over [the packs of the file at hand, the file
    at the recorded location]. -/
theorem c10_lookup_chain_is_source_chain :
    (∀ {α : Type} (answers : List (Option α)), Generated.chainedLocate answers = some (answers.findSome? id)) ∧
    (∀ (fs : FS) (entryFile : String) (entryPacks : List PackAt) (uuid : Bytes) (location : String)
        (r : Option Located), fsLocate fs uuid location = .ok r →
      Outcome.ok <$> Generated.chainedLocate
          [(entryPacks.find? (fun p => p.uuid == uuid)).map (fun p => (⟨entryFile, p⟩ : Located)), r] =
        some (locate fs entryFile entryPacks uuid location)) :=
  ⟨fun a => gen_chainedLocate a, locate_is_chain⟩

/-- **Looking a pack up in the file system follows the source**: `fsLocate` of the container model is
    `FsLocator::locate` as translated from `reader/locator.rs` on every run — the recorded location must name a
    regular file, which is opened blindly and searched by uuid. -/
theorem c10_fs_locate_is_source_locate (fs : FS) (uuid : Bytes) (location : String) :
    fsLocate fs uuid location =
      Generated.fsLocatorLocate (decide (location ≠ "" ∧ (fs.get location).isSome)) (Outcome.ok ((fs.get location).getD []))
        (fun f => blindOpen f)
        (fun packs => (packs.find? (fun p => p.uuid == uuid)).map (fun p => (⟨location, p⟩ : Located))) :=
  gen_fsLocate fs uuid location

/-- **Opening a file without knowing what it holds follows the source**: `blindOpen` of the container model is
    `open_as_container_pack` (`reader/jubako.rs`) as translated on every run, applied to the model's header
    parses: header at 0 (a version mismatch is reported at once), else the mirrored tail for files of at least 64
    bytes, the declared size bounded by the file, the pack at `file size − declared size`; a container pack is
    opened as such, any other pack stands alone under its uuid. -/
theorem c10_blind_open_is_source_open (f : Bytes) :
    blindOpen f =
      Generated.openAsContainerPack f.length
        (if f.length < 60 then .err .format else PackHeader.decode (f.take 60))
        (do let hd ← readBlock f 0 60; PackHeader.decode hd)
        (do let hd ← readBlock (slice f (f.length - 64) 64).reverse 0 60; PackHeader.decode hd)
        (fun origin size => if origin + size ≤ f.length then .ok (origin, size) else .err .format)
        (fun r => containerPackOpen f r.1 r.2)
        (fun r uuid => [⟨uuid, r.1, r.2⟩]) :=
  gen_blindOpen f

/-- **Reading the table of packs of a container pack follows the source**: `containerPackOpen` is
    `ContainerPack::new` (`reader/container_pack.rs`) as translated on every run: the locators are read one
    after the other from the recorded position, each pack region is cut out of the container with a bounds
    check, in table order; the translated loop recurses on the pack count. -/
theorem c10_container_pack_open_is_source_open (f : Bytes) (origin size : Nat) :
    containerPackOpen f origin size =
      (Generated.containerPackNew 36
          (do let hd ← readBlock (slice f origin size) 0 60; PackHeader.decode hd)
          (do let cb ← readBlock (slice f origin size) 64 60; ContainerHeader.decode cb)
          (fun off => (readBlock (slice f origin size) off 32).bind fun lb => PackLocator.decode lb)
          (fun pos sz => if pos + sz ≤ (slice f origin size).length then Outcome.ok (origin + pos, sz) else .err .format)).map'
        (fun r => r.2.map toAt) :=
  gen_containerPackOpen f origin size

end Jubako
