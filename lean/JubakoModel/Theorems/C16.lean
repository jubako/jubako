/-
C16 — the compression hint decides how a content is stored.
-/
import JubakoModel.Lemmas.Verbatim
import JubakoModel.Lemmas.FuncsContent

namespace Jubako

inductive Hint where
  | yes | no | detect
  deriving Repr, DecidableEq

/-- `ContentPackCreator::detect_compression`: pack without compression ⇒ raw; `Yes` ⇒ compressed;
    `No` ⇒ raw; `Detect` ⇒ the entropy heuristic's answer `h` (an arbitrary bit here) -/
def detectCompression (packCompresses : Bool) (hint : Hint) (heuristic : Bool) : Bool :=
  if !packCompresses then false
  else match hint with
    | .yes => true
    | .no => false
    | .detect => heuristic

theorem c16_decision (pc : Bool) (hint : Hint) (h : Bool) :
    ((hint = .no ∨ pc = false) → detectCompression pc hint h = false) ∧
    ((hint = .yes ∧ pc = true) → detectCompression pc hint h = true) := by
  cases pc <;> cases hint <;> simp [detectCompression]

/-- an insertion request: bytes, hint, and the heuristic's answer should it be consulted -/
structure Request where
  data : Bytes
  hint : Hint
  heuristic : Bool

def Request.item (pc : Bool) (r : Request) : Item := ⟨r.data, detectCompression pc r.hint r.heuristic⟩

/-- **The hint decides the storage class**, for every insertion sequence and every arrival order:
    the content inserted i-th is found, at its address, in a cluster whose class is
    *uncompressed* when the hint is `no` or the pack does not compress, and *compressed* when the
    hint is `yes` in a compressing pack; in both cases the blob at that address is the inserted
    bytes.  (That an uncompressed cluster holds its blobs verbatim and a compressed one carries the
    pack's algorithm byte is `Cluster.encode`, checked byte-exactly by the correspondence.) -/
theorem c16_hint (pc : Bool) (reqs : List Request) (arrival : List Cluster)
    (hp : ((Creator.init.addAll (reqs.map (Request.item pc))).finalize).1.Perm arrival)
    (i : Nat) (hi : i < reqs.length) :
    let r := reqs.getD i ⟨[], .no, false⟩
    let info := ((Creator.init.addAll (reqs.map (Request.item pc))).finalize).2.getD i (0,0)
    ((r.hint = .no ∨ pc = false) → resolve arrival info = some (r.data, false)) ∧
    ((r.hint = .yes ∧ pc = true) → resolve arrival info = some (r.data, true)) := by
  intro r info
  have h : resolve arrival info = some (r.data, detectCompression pc r.hint r.heuristic) := by
    have := creator_roundtrip_any_arrival (reqs.map (Request.item pc)) arrival hp.symm i (by simpa using hi)
    rwa [show (reqs.map (Request.item pc)).getD i ⟨[], false⟩ = Request.item pc r by
      simp [List.getD, hi, r]] at this
  have hd := c16_decision pc r.hint r.heuristic
  exact ⟨fun hc => by rw [h, hd.1 hc], fun hc => by rw [h, hd.2 hc]⟩

/-- dedup adder (`CachedContentAdder`): a map from content key to the address of its first
    insertion.  `key` stands for blake3; nothing is assumed about it.  On a cache hit
    (`Entry::Occupied` in `cache_content`) the cached address is returned and the new reader and its
    `comp_hint` are dropped: the hint of the FIRST insertion of these bytes decides how they are
    stored. -/
def dedupAdd (key : Bytes → Bytes) (st : List (Bytes × Nat) × List Bytes) (d : Bytes) :
    (List (Bytes × Nat) × List Bytes) × Nat :=
  match st.1.find? (fun e => e.1 == key d) with
  | some e => (st, e.2)
  | none => ((st.1 ++ [(key d, st.2.length)], st.2 ++ [d]), st.2.length)

def DedupInv (key : Bytes → Bytes) (st : List (Bytes × Nat) × List Bytes) : Prop :=
  ∀ e ∈ st.1, ∃ d, st.2[e.2]? = some d ∧ key d = e.1

theorem dedup_inv_step (key : Bytes → Bytes) (st) (d : Bytes) (h : DedupInv key st) :
    DedupInv key (dedupAdd key st d).1 := by
  unfold dedupAdd
  split
  · exact h
  · intro e he
    simp only [List.mem_append, List.mem_singleton] at he
    rcases he with he | he
    · obtain ⟨d', h1, h2⟩ := h e he
      refine ⟨d', ?_, h2⟩
      rw [List.getElem?_append_left (List.getElem?_eq_some_iff.1 h1).1]
      exact h1
    · subst he
      exact ⟨d, by simp, rfl⟩

/-- **Dedup**: the address returned for `d` holds a content with the same key as `d` — i.e. the
    same bytes, or an explicit collision of the key function; and a content whose key is already
    cached is not stored again. -/
theorem c16_dedup (key : Bytes → Bytes) (st) (d : Bytes) (h : DedupInv key st) :
    (∃ d', (dedupAdd key st d).1.2[(dedupAdd key st d).2]? = some d' ∧ key d' = key d) ∧
    ((∃ e ∈ st.1, e.1 = key d) → (dedupAdd key st d).1 = st) := by
  constructor
  · unfold dedupAdd
    split
    · rename_i e he
      have hm := List.mem_of_find?_eq_some he
      have hk := List.find?_some he
      obtain ⟨d', h1, h2⟩ := h e hm
      exact ⟨d', h1, by rw [h2]; simpa using hk⟩
    · exact ⟨d, by simp, rfl⟩
  · intro ⟨e, he, hk⟩
    unfold dedupAdd
    split
    · rfl
    · rename_i hnone
      have := List.find?_eq_none.mp hnone e he
      simp [hk] at this

/-- **(A) An item inserted uncompressed is stored verbatim in an uncompressed cluster**, for every
    insertion sequence and every arrival order of the clusters at the writer.

    Hypotheses: those of `contentGet_contentPackWrite`, without the soundness of the codec (nothing
    is decompressed). -/
theorem c16_file_verbatim (H : Bytes → Bytes) (codec : Codec)
    (hbyte : codec.byte ≤ 3) (m : ContentPackMeta) (hm : m.WF)
    (items : List Item) (arrival : List Cluster)
    (hp : arrival.Perm ((Creator.init.addAll items).finalize).1)
    (hcomp : codec.byte = 0 → ∀ it ∈ items, it.comp = false)
    (hcount : items.length < 2 ^ 32)
    (hncl : arrival.length ≤ 2 ^ 20)
    (hdata : totalSize items < 2 ^ 64)
    (hsize : (contentPackWrite H codec m arrival ((Creator.init.addAll items).finalize).2).length
      < 2 ^ 48)
    (i : Nat) (hi : i < items.length) (hraw : (items[i]).comp = false) :
    StoredVerbatim (contentPackWrite H codec m arrival ((Creator.init.addAll items).finalize).2) i
      (items[i]).data :=
  verbatim_in_file ⟨hbyte, hm, hp, hcomp, hcount, hncl, hdata, hsize⟩ i hi hraw

/-- **(B) An item inserted compressed is stored in a cluster compressed with the algorithm of the
    pack.**  Hypotheses: exactly those of `contentGet_contentPackWrite`.  That the pack compresses
    (`codec.byte ≠ 0`) is a conclusion: it follows from `hcomp`. -/
theorem c16_file_compressed (H : Bytes → Bytes) (codec : Codec) (hcodec : codec.Sound)
    (hbyte : codec.byte ≤ 3) (m : ContentPackMeta) (hm : m.WF)
    (items : List Item) (arrival : List Cluster)
    (hp : arrival.Perm ((Creator.init.addAll items).finalize).1)
    (hcomp : codec.byte = 0 → ∀ it ∈ items, it.comp = false)
    (hcount : items.length < 2 ^ 32)
    (hncl : arrival.length ≤ 2 ^ 20)
    (hdata : totalSize items < 2 ^ 64)
    (hsize : (contentPackWrite H codec m arrival ((Creator.init.addAll items).finalize).2).length
      < 2 ^ 48)
    (i : Nat) (hi : i < items.length) (hc : (items[i]).comp = true) :
    StoredCompressed codec
      (contentPackWrite H codec m arrival ((Creator.init.addAll items).finalize).2) i
      (items[i]).data :=
  compressed_in_file hcodec ⟨hbyte, hm, hp, hcomp, hcount, hncl, hdata, hsize⟩ i hi hc

/-- **(C) In a pack created without compression every content is stored verbatim.** -/
theorem c16_file_no_compression_verbatim (H : Bytes → Bytes) (codec : Codec)
    (hbyte : codec.byte ≤ 3) (m : ContentPackMeta) (hm : m.WF)
    (items : List Item) (arrival : List Cluster)
    (hp : arrival.Perm ((Creator.init.addAll items).finalize).1)
    (hcomp : codec.byte = 0 → ∀ it ∈ items, it.comp = false)
    (hcount : items.length < 2 ^ 32)
    (hncl : arrival.length ≤ 2 ^ 20)
    (hdata : totalSize items < 2 ^ 64)
    (hsize : (contentPackWrite H codec m arrival ((Creator.init.addAll items).finalize).2).length
      < 2 ^ 48)
    (hnone : codec.byte = 0) (i : Nat) (hi : i < items.length) :
    StoredVerbatim (contentPackWrite H codec m arrival ((Creator.init.addAll items).finalize).2) i
      (items[i]).data :=
  verbatim_of_no_compression ⟨hbyte, hm, hp, hcomp, hcount, hncl, hdata, hsize⟩ hnone i hi

/-- non-vacuity (raw and compressed contents of the example pack of Lemmas/ContentFile) -/
example := @ContentFileExample.item0_verbatim
example := @ContentFileExample.item1_compressed
example := @ContentFileExample.item1_not_verbatim

def Hint.toSrc : Hint → Generated.SrcCompHint
  | .yes => .yes | .no => .no | .detect => .detect

/-- **The storage-class decision of the model is the source's**: `ContentPackCreator::detect_compression`
    (`creator/content_pack/creator.rs`) translated on every run — a pack that does not compress stores raw
    whatever the hint; otherwise `Yes` compresses, `No` does not, and only `Detect` consults the entropy
    heuristic (an arbitrary bit here: the head of the content is read and the content rewound, which the
    translation drops). -/
theorem c16_decision_is_source_decision (pc : Bool) (hint : Hint) (h : Bool) :
    detectCompression pc hint h = Generated.detectCompression (!pc) hint.toSrc h := by
  cases pc <;> cases hint <;> rfl

end Jubako
