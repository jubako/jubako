/-
C04 — created packs verify; any later change to checksummed bytes makes the check fail.

The hash `H` is an arbitrary function (nothing is assumed about blake3): where a changed byte has to be
noticed (`c04_alteration_detected`) the conclusion is "the check does not answer true, or here is an explicit
`H`-collision".
-/
import JubakoModel.Lemmas.Mask
import JubakoModel.Lemmas.FuncsCheck
import JubakoModel.Lemmas.FuncsLookup
-- not used below: a `Funcs*` import is a tie that `tools/engine.py` reads off this file
import JubakoModel.Lemmas.FuncsParse
import JubakoModel.Lemmas.Frame

namespace Jubako

/-- two different byte strings with the same hash -/
def HashCollision (H : Bytes → Bytes) (a b : Bytes) : Prop := a ≠ b ∧ H a = H b

/-- **Alteration inside the checked range.**  `f` verifies; `alt` still has a header block and a
    check block that pass their CRCs and decode to the same check position and the same stored
    hash (i.e. the alteration is confined to the bytes the blake3 hash is responsible for — damage
    to the two CRC-protected blocks themselves is the CRC layer, property C05); the masked prefix
    differs.  Then the check of `alt` does not answer `true`, unless the two masked prefixes are an
    explicit collision of `H`. -/
theorem c04_alteration_detected (H mask : Bytes → Bytes) (f alt : Bytes) (cip : Nat) (stored : Bytes)
    (hpf : packCheckParts f = .ok (cip, .blake3 stored))
    (hpa : packCheckParts alt = .ok (cip, .blake3 stored))
    (hf : packCheck H mask f = .ok true)
    (hdiff : mask (alt.take cip) ≠ mask (f.take cip)) :
    packCheck H mask alt ≠ .ok true ∨ HashCollision H (mask (alt.take cip)) (mask (f.take cip)) := by
  refine (Classical.em _).symm.imp_right fun ha => ⟨hdiff, ?_⟩
  -- both checks answered `true`: neither ran past the end of its file, and both hashes equal the stored one
  simp only [packCheck_eq, hpf, hpa, Outcome.bind] at hf ha
  split at hf <;> split at ha <;> simp_all

/-- the verdict only depends on the check position, the stored hash and the masked prefix: two
    files that agree on these get the same answer (so bytes outside the checked range and outside
    the two CRC-protected blocks — the mirrored tail — never influence `check`) -/
theorem c04_verdict_depends_only_on_checked (H mask : Bytes → Bytes) (f g : Bytes)
    (hp : packCheckParts f = packCheckParts g)
    (hm : ∀ cip, mask (f.take cip) = mask (g.take cip)) (hl : f.length = g.length) :
    packCheck H mask f = packCheck H mask g :=
  packCheck_congr hp hm hl

/-- **The streaming check reads exactly the pure mask**, whatever buffer sizes the hasher uses
    (`ManifestCheckStream::read` vs `manifestMask`), once the whole source has been delivered. -/
theorem c04_stream_eq_mask (po n : Nat) (src : Bytes) (reqs : List Nat)
    (h : (checkStreamDrain po n 0 src reqs).length = src.length) :
    checkStreamDrain po n 0 src reqs = manifestMask po n src := by
  rw [checkStreamDrain_spec, h, List.take_length, manifestMask]

/-- every read with a non-empty buffer on a non-exhausted source delivers at least one byte, so
    reading until a read returns nothing does deliver the whole source -/
theorem c04_stream_progress (po n pos : Nat) (src : Bytes) (req : Nat) (hr : 0 < req) (hs : src ≠ []) :
    0 < (checkStreamRead po n pos src req).1.length := by
  obtain ⟨k, -, hk, hp, e⟩ := checkStreamRead_spec po n pos src req
  rw [e, maskFrom_length, List.length_take, Nat.min_eq_left hk]
  exact hp hr hs

/-- **The only exempt bytes**: a manifest position is read as zero by the check iff it lies in the
    location field or the CRC of one of the `n` pack-info blocks (bytes 38..255 of the block). -/
theorem c04_exempt_exactly (po n p : Nat) :
    maskedPos po n p = true ↔ ∃ k, k < n ∧ po + k * 256 + 38 ≤ p ∧ p < po + (k + 1) * 256 :=
  maskedPos_iff po n p

/-- an alteration of a non-exempt byte below the check position changes the byte string that is
    hashed (for the identity mask of content / directory packs every byte is non-exempt: `n = 0`) -/
theorem c04_unmasked_alteration_changes_hashed (po n cip p : Nat) (f alt : Bytes)
    (hp : p < cip) (hpf : p < f.length) (hpa : p < alt.length)
    (hne : alt[p]? ≠ f[p]?) (hm : maskedPos po n p = false) :
    manifestMask po n (alt.take cip) ≠ manifestMask po n (f.take cip) := by
  intro heq
  have := ((maskFrom_eq_iff po n 0 _ _).1 heq).2 p (by rwa [Nat.zero_add])
  simp only [List.getElem?_take, hp, if_true] at this
  exact hne this

/-- **Created packs verify.**  Any pack laid out as the creators do — header block, body, check
    block holding `H` of the masked prefix, mirrored tail — with a well-formed header whose
    `checkInfoPos`/`packSize` describe that layout, passes `Pack::check`, for every hash function
    with 32-byte output and every mask. -/
theorem c04_created_verifies (H mask : Bytes → Bytes) (h : PackHeader) (body : Bytes)
    (hw : h.WF) (hv : h.major = Consts.versionGateMajor ∧ h.minor = Consts.versionGateMinor)
    (hcip : h.checkInfoPos = 64 + body.length) (hsz : h.packSize = h.checkInfoPos + 37 + 64)
    (hH : ∀ x, (H x).length = 32) :
    packCheck H mask (framePack H mask h body) = .ok true :=
  packCheck_framePack_self ⟨hw, hv, hcip, hsz⟩ hH

/-- non-vacuity of `c04_created_verifies`: a header meeting every hypothesis -/
example :
    let h : PackHeader := ⟨.content, [1, 2, 3, 4], 0, 2, List.replicate 16 7, 0, 64 + 3 + 37 + 64, 64 + 3⟩
    h.WF ∧ (h.major = Consts.versionGateMajor ∧ h.minor = Consts.versionGateMinor) ∧
    h.checkInfoPos = 64 + ([1, 2, 3] : Bytes).length ∧ h.packSize = h.checkInfoPos + 37 + 64 := by
  simp [PackHeader.WF, Consts.versionGateMajor, Consts.versionGateMinor]

/-! ### Tie to the source: the check stream of the theorems is the body of `ManifestCheckStream::read` -/

/-- **One `read` of the model's check stream is the body of `ManifestCheckStream::read` as translated
    from `common/check.rs` on every run** (`Generated.checkStreamStep`: how many bytes are asked of the
    source at a given stream offset, and whether they are delivered as zeros), with the block size and
    the number of checked bytes per pack info taken from the source as well.  `c04_stream_eq_mask`
    and `c04_exempt_exactly` are therefore statements about the branch structure and the arithmetic
    that are in the source now. -/
theorem c04_check_stream_is_source_stream (packOff n pos : Nat) (src : Bytes) (req : Nat) :
    checkStreamRead packOff n pos src req =
      (let r := Generated.checkStreamStep packInfoBlockSize packOff (packOff + n * packInfoBlockSize) pos req
       (if r.2 then zeros (src.take r.1).length else src.take r.1, src.drop r.1)) :=
  gen_checkStreamRead packOff n pos src req

/-- non-vacuity: at stream offset 128+38 of a manifest whose pack infos start at 128 the translated
    body asks for the 218 exempt bytes and blanks them; one byte earlier it asks for one checked byte -/
example : Generated.checkStreamStep 256 128 (128 + 2 * 256) (128 + 38) 65536 = (218, true) ∧
          Generated.checkStreamStep 256 128 (128 + 2 * 256) (128 + 37) 65536 = (1, false) := by decide

/-! ### Tie to the source: the container-wide check -/

/-- **`Container::check` as translated from `reader/jubako.rs` on every run**: it terminates for every
    container and answers `true` exactly when the manifest verifies, the directory pack verifies and every
    listed content pack *that can be located* verifies — a pack that cannot be located is skipped and the
    packs listed after it are still checked; and the reader model's `containerCheck` (the function run
    against the implementation on every altered container), whenever every part answers, is that function
    of the parts' verdicts. -/
theorem c04_container_check_is_source_check :
    (∀ (m d : Bool) (packs : List (Option Bool)),
      Generated.containerCheck m d packs = some (m && d && locatedAllOk packs)) ∧
    (∀ (H : Bytes → Bytes) (fs : FS) (c : ContainerView) (m d : Bool) (vs : List (Option Bool)),
      manifestCheck H c.manifest = .ok m → packCheck H id c.dirPack = .ok d →
      (c.infos.filter (fun i => i.kind ≠ .directory)).map (packCheckStep H fs c) = vs.map Outcome.ok →
      some (containerCheck H fs c) = Outcome.ok <$> Generated.containerCheck m d vs) :=
  ⟨gen_containerCheck, containerCheck_is_source_check⟩

/-- non-vacuity: an unlocated pack listed before a pack that does not verify — the verdict is `false` -/
example : Generated.containerCheck true true [none, some false, some true] = some false ∧
          Generated.containerCheck true true [none, some true] = some true := by decide

/-- **The check block and the verdict are the source's**: `CheckInfo::parse` (with `CheckKind::parse`) and
    `CheckInfo::check` (`common/check.rs`), translated on every run: the stored hash is the 32 bytes after a
    kind byte 1, absent after a kind byte 0, anything else is a format error — as `CheckInfo.decode` has it, on
    every byte string; and the verdict is "no hash stored, or the hash of the stream equals the stored hash" —
    the last step of `packCheck`. -/
theorem c04_check_block_is_source_check_block :
    (∀ bs, (Generated.checkInfoParse bs).map' (·.1) = (CheckInfo.decode bs).map' CheckInfo.toSrc) ∧
    (∀ (ci : CheckInfo) (streamHash : Bytes),
      (match ci with | CheckInfo.none => true | CheckInfo.blake3 stored => streamHash == stored) =
        Generated.checkInfoCheck ci.toSrc streamHash) :=
  ⟨gen_checkInfoParse, gen_checkInfoCheck⟩

/-- **Where the check block is looked for is where the source looks**: `PackHeader::check_info_size`
    translated on every run is the size `packCheckParts` reads at `checkInfoPos` — whenever the subtraction does
    not underflow (the model answers "panic" otherwise, as the u64 arithmetic of a debug build does). -/
theorem c04_check_block_size_is_source_size (h : PackHeader) (n : Nat) (hn : h.checkInfoSize = some n) :
    Generated.packHeaderCheckInfoSize h.packSize h.checkInfoPos 64 = n :=
  gen_checkInfoSize h n hn

/-- **The check block the creators write is the source's**: `CheckInfo::serialize` translated on every run writes
    `CheckInfo.encode` — the bytes `framePack` (over which `c04_created_verifies` is stated) puts in the check
    block: `0` alone, or `1` and the 32 bytes of the hash. -/
theorem c04_check_block_written_is_source_block (ci : CheckInfo) :
    writesBytes (Generated.checkInfoWrites (match ci with | CheckInfo.none => Option.none | CheckInfo.blake3 h => some h)) = ci.encode :=
  gen_checkInfoWrites ci

end Jubako
