/-
C07 — concurrent readers of one container always get exactly the stored bytes.

`SV` (Model/SyncVec.lean) is the shared decode buffer as a transition system; a schedule is an
arbitrary list of atomic actions of the decoder and of any number of reader threads.  All statements
quantify over every schedule, every number of readers, every chunking of the decoder's writes, every
cluster content, including decoders that fail after `avail < total` bytes (D11).
-/
import JubakoModel.Lemmas.SyncVec
import JubakoModel.Lemmas.Cache
import JubakoModel.Lemmas.FileCursor
import JubakoModel.Lemmas.FuncsProto
import JubakoModel.Lemmas.FuncsSync

namespace Jubako

/-- **Reads are exact**: in every state reachable from the initial one, a finished read of
    `[off, end)` returned exactly those bytes of the cluster's plain data — never torn, stale,
    out-of-range or foreign bytes. -/
theorem c07_reads_exact (data : Bytes) (avail n : Nat) (h : avail ≤ data.length) (as : List SVAct) (s : SV)
    (hr : (SV.init data avail n).run as = some s) :
    ∀ (r off end_ : Nat) (res : Bytes), s.readers[r]? = some (RPhase.done off end_ res) →
      res = slice data off (end_ - off) := by
  obtain ⟨hi, hd, -⟩ := sv_reach h hr
  exact fun r off end_ res hx => hd ▸ hi.inv.reader hx

/-- **Safety invariant** along every schedule: published ≤ written ≤ total, the written prefix is a
    prefix of the data, woken readers only look below the published length, failed readers asked
    for more than the decoder could deliver. -/
theorem c07_invariant (data : Bytes) (avail n : Nat) (h : avail ≤ data.length) (as : List SVAct) (s : SV)
    (hr : (SV.init data avail n).run as = some s) : s.Inv :=
  (sv_reach h hr).1.inv

/-- **No overlap between the writer and the readers**: whenever a reader slices and the decoder
    writes in the same state, every index read is below every index written (reads are below the
    published length, writes at or above the written length). -/
theorem c07_disjoint (s : SV) (hi : s.Inv) (r n i j : Nat)
    (hr : SVAct.readsBelow s (.slice r) = some i) (hw : SVAct.writesFrom s (.write n) = some j) : i ≤ j := by
  cases hr; cases hw; exact hi.1

/-- a write never changes a byte below the written length (hence none below the published one);
    a read changes nothing -/
theorem c07_write_preserves_published (s s' : SV) (n : Nat) (h : s.step (.write n) = some s') :
    s'.buf.take s.buf.length = s.buf ∧ s'.d = s.d := by
  obtain ⟨-, rfl⟩ := SV.step_write_iff.mp h
  exact ⟨List.take_left, rfl⟩

/-- **No reader waits forever** (no lost wake-up, no deadlock), whatever the schedule did before:
    from any reachable state with a waiting reader, the decoder alone — in at most
    `decoderMeasure` of its own steps (two per remaining chunk) — reaches a state in which that
    reader's wake-up is enabled: either enough bytes are published or the failure flag is set. -/
theorem c07_progress (s : SV) (hi : s.Inv) (r off end_ : Nat)
    (hr : s.readers[r]? = some (RPhase.waiting off end_)) :
    ∃ (as : List SVAct) (s' : SV), s.run as = some s' ∧ as.length ≤ s.decoderMeasure ∧
      (∀ a ∈ as, a = .publish ∨ a = .fail ∨ ∃ n, a = .write n) ∧
      s'.readers[r]? = some (RPhase.waiting off end_) ∧ ∃ s'', s'.step (.wake r) = some s'' :=
  SV.decoder_reaches_wake hi hr

/-- a woken reader can always complete its read -/
theorem c07_woken_reads (s : SV) (r off end_ : Nat) (hr : s.readers[r]? = some (RPhase.woke off end_)) :
    ∃ s', s.step (.slice r) = some s' := ⟨_, SV.step_slice_iff.mpr ⟨off, end_, hr, rfl⟩⟩

/-- **On an undamaged payload no read ever fails**, under any schedule. -/
theorem c07_sound_never_fails (data : Bytes) (n : Nat) (as : List SVAct) (s : SV)
    (hr : (SV.init data data.length n).run as = some s) :
    s.failedFlag = false ∧ ∀ (r off end_ : Nat), s.readers[r]? ≠ some (RPhase.failed off end_) := by
  obtain ⟨hi, hd, ha⟩ := sv_reach (Nat.le_refl _) hr
  exact hi.not_failed (by rw [ha, SV.total, hd])

/-- **Cache eviction never invalidates a handle**: the LRU of decoded clusters gives a cluster
    either its existing handle or a brand-new one; handles are never shared by two clusters, so a
    region obtained before an eviction keeps denoting the same cluster's buffer. -/
theorem c07_cache_handles_stable (c : LruCache) (idx : Nat) (h : LruInv c) :
    LruInv (c.get idx).2 ∧
    (((c.get idx).1 = c.nextHandle ∧ c.entries.find? (fun e => e.1 == idx) = none) ∨
     (∃ e, c.entries.find? (fun e => e.1 == idx) = some e ∧ (c.get idx).1 = e.2)) := by
  refine ⟨lru_inv_get c idx h, ?_⟩
  rcases c.get_cases idx with ⟨e, hf, -, -, heq⟩ | ⟨hf, -, heq⟩ <;> rw [heq]
  · exact .inr ⟨e, hf, rfl⟩
  · exact .inl ⟨rfl, hf⟩

/-- **No reader is ever given another cluster's buffer through the cache**: over any history of
    lookups (the cache's mutex serialises the lookups of concurrent readers; `idxs` is that order),
    with any capacity — hence any amount of eviction and re-insertion in between — every lookup is
    answered for the index it asked, and a handle that was handed out for one cluster index is never
    handed out for another one. -/
theorem c07_cache_serves_requested_cluster (cap : Nat) (idxs : List Nat) :
    ((⟨cap, [], 0⟩ : LruCache).run idxs).1.map (·.1) = idxs ∧
    ∀ p ∈ ((⟨cap, [], 0⟩ : LruCache).run idxs).1, ∀ q ∈ ((⟨cap, [], 0⟩ : LruCache).run idxs).1,
      p.2 = q.2 → p.1 = q.1 := by
  have h := cacheHistInv_run ⟨cap, [], 0⟩ [] idxs ⟨nofun, nofun, nofun⟩
  exact ⟨lru_run_answers _ idxs, fun p hp q hq => h.functional p (by simp [hp]) q (by simp [hq])⟩

/-- non-vacuity: capacity 2, five lookups over three clusters: cluster 0 is evicted and comes back
    with a new handle; handles 0 and 3 both serve cluster 0, nobody else's -/
example : ((⟨2, [], 0⟩ : LruCache).run [0, 1, 2, 0, 1]).1 = [(0, 0), (1, 1), (2, 2), (0, 3), (1, 4)] := by
  decide

/-- non-vacuity: 2 readers, 2 decoder writes, a schedule in which reader 0 is served after the
    first publication while the decoder is still writing, and reader 1 after the second -/
example :
    let data : Bytes := [0, 1, 2, 3, 4, 5, 6, 7, 8, 9, 10, 11, 12, 13, 14, 15, 16, 17, 18, 19]
    ∃ s, (SV.init data data.length 2).run
      [.request 0 1 6, .request 1 10 20, .write 8, .publish, .wake 0, .write 12, .slice 0,
       .publish, .wake 1, .slice 1] = some s ∧
      s.readers[0]? = some (RPhase.done 1 6 [1, 2, 3, 4, 5]) ∧
      s.readers[1]? = some (RPhase.done 10 20 [10, 11, 12, 13, 14, 15, 16, 17, 18, 19]) := by
  refine ⟨_, rfl, ?_, ?_⟩ <;> decide

/-- **Readers sharing one open file.**  Any number of threads, each running any list of positioned
    accesses of the shape `lock; seek(offset); read(n); unlock` on one shared file cursor, under any
    schedule (any interleaving of the individual actions, blocked threads being skipped): every read
    returns exactly the bytes of the file at the offset its access asked for.  (The cluster tail loads,
    the stream reads of raw contents and the decoders' input reads of one pack file all go through this
    cursor.) -/
theorem c07_shared_file_reads_exact (file : Bytes) (progs : List (List (Nat × Nat))) (sched : List Nat) :
    ((FState.init file atomicAccess progs).run sched).readsExact :=
  fun t => (finv_run _ (finv_init file progs) sched t).exact

/-- **… and that shape is the shape of the source**: the action sequences of `FileSource::read`,
    `FileSource::read_exact` and of the small-block arm of `FileSource::cut`, extracted from
    `bases/io/file.rs` on every run (Generated/FuncsProto.lean), are `atomicAccess`.  A body that takes the
    lock twice, seeks conditionally or reads through another path no longer extracts. -/
theorem c07_file_access_shape_is_source_shape :
    Generated.fileSourceReadProto = atomicAccess ∧ Generated.fileSourceReadExactProto = atomicAccess ∧
    Generated.fileSourceCutSmallProto = atomicAccess :=
  gen_fileSourceProto

/-- the theorem is not vacuous and the shape matters: two threads reading 2 bytes at offsets 0 and 5 —
    with the cursor set and used under two separate holds of the lock (`lock; seek; unlock; lock; read;
    unlock`) there is a schedule on which the first thread gets the bytes at offset 5 -/
theorem c07_split_lock_access_fails :
    let file : Bytes := [10, 11, 12, 13, 14, 15, 16, 17]
    let split : List FAct := [.lock, .seek, .unlock, .lock, .read, .unlock]
    let s := (FState.init file split [[(0, 2)], [(5, 2)]]).run [0, 0, 0, 0, 1, 1, 1, 1, 0, 0, 0]
    (s.threads 0).got = [(0, 2, [15, 16])] := by
  decide

example :
    let file : Bytes := [10, 11, 12, 13, 14, 15, 16, 17]
    let s := (FState.init file atomicAccess [[(0, 2)], [(5, 2)]]).run [0, 0, 0, 1, 1, 1, 0, 0, 0, 1, 1, 1, 1]
    (s.threads 0).got = [(0, 2, [10, 11])] ∧ (s.threads 1).got = [(5, 2, [15, 16])] := by
  decide

/-- **The SyncVec model's decoder turn, publication and failure are the statement sequences of
    `decode_to_end`, and its waiting condition is the closure of `SyncVecRd::wait_for`, as extracted /
    translated from `bases/io/compression.rs` on every run**: the chunk is read first, then — under the
    lock — either the new length is published and *all* waiters are notified, or the failure is recorded,
    all waiters are notified and the decoder stops; a reader keeps waiting while `decoded < end ∧ ¬failed`
    and succeeds iff `decoded ≥ end` (the model's `.wake`). -/
theorem c07_syncvec_protocol_is_source_protocol :
    (Generated.svDecoderLoopShape = decoderTurnStmts ∧ Generated.svDecoderOkShape = decoderPublishStmts ∧
      Generated.svDecoderErrShape = decoderFailStmts) ∧
    (∀ (s : SV) (r off end_ : Nat), s.readers[r]? = some (.waiting off end_) →
      ((s.step (.wake r)).isSome = !Generated.svWaitPredicate s.d s.failedFlag end_) ∧
      (Generated.svWaitResult s.d end_ = true →
        s.step (.wake r) = some { s with readers := s.readers.set r (.woke off end_) })) :=
  ⟨gen_svShapes, fun s r off end_ hr => ⟨(wake_iff_source s r off end_ hr).1, (wake_iff_source s r off end_ hr).2.1⟩⟩

end Jubako
