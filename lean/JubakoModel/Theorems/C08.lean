/-
C08 — the created container does not depend on how compression workers are scheduled.

`Pipe` (Model/Pipeline.lean) is the cluster pipeline as a transition system; a *schedule* is an
arbitrary list of atomic thread actions.  All statements quantify over every schedule, every number
of workers ≥ 1, every list of clusters (raw and compressed mixed, shorter or longer than the
back-pressure limit).
-/
import JubakoModel.Lemmas.Pipeline
import JubakoModel.Lemmas.FuncsPipe
import JubakoModel.Lemmas.Verbatim

namespace Jubako

/-- **Back-pressure invariant**, every reachable state: the counter equals the number of clusters
    in the dispatch queue or held by a worker, and never exceeds `2 × workers`. -/
theorem c08_backpressure_inv (codec : Codec) (cs : List Cluster) (n : Nat) (as : List PAct) (s : Pipe)
    (h : (Pipe.init cs n).run codec as = some s) : s.Inv :=
  (pipe_reach h).1

/-- **No deadlock**: in every reachable state that is not final, some thread can take a step. -/
theorem c08_no_deadlock (codec : Codec) (cs : List Cluster) (n : Nat) (hn : 0 < n) (as : List PAct)
    (s : Pipe) (h : (Pipe.init cs n).run codec as = some s) (hnf : s.final = false) :
    ∃ a s', s.step codec a = some s' := by
  obtain ⟨hi, hq, hw, -, -⟩ := pipe_reach h
  exact pipe_no_deadlock hi (by omega) (by omega) hnf

/-- **Termination**: no schedule is longer than the initial measure (6 per cluster); together with
    `c08_no_deadlock`, every maximal schedule ends in a final state. -/
theorem c08_terminates (codec : Codec) (cs : List Cluster) (n : Nat) (as : List PAct) (s : Pipe)
    (h : (Pipe.init cs n).run codec as = some s) : as.length ≤ 6 * cs.length := by
  obtain ⟨-, -, -, -, hl⟩ := pipe_reach h
  omega

/-- **Addresses**: after any schedule, what the writer recorded is exactly the layout of the clusters
    it has written, in the order it wrote them: `addresses[idx]` is the position of the tail of
    cluster `idx` in the produced bytes (relative offsets of worker-built buffers are rebased
    correctly). -/
theorem c08_addresses (codec : Codec) (cs : List Cluster) (n : Nat) (as : List PAct) (s : Pipe)
    (hwf : ClustersWF codec cs) (h : (Pipe.init cs n).run codec as = some s) :
    layoutClusters codec s.done 128 = (s.out, s.addresses) := by
  obtain ⟨-, ho, ha, -⟩ := (Pipe.isRun codec).inv h (pipe_layout_init codec cs n hwf) pipe_layout_step
  rw [layoutClusters_eq, ← ho, ← ha]

/-- **Every completion order**: in a final state the written clusters are a permutation of the
    clusters handed over — nothing lost, nothing written twice. -/
theorem c08_final_perm (codec : Codec) (cs : List Cluster) (n : Nat) (as : List PAct) (s : Pipe)
    (h : (Pipe.init cs n).run codec as = some s) (hf : s.final = true) : s.done.Perm cs := by
  obtain ⟨-, -, -, hp, -⟩ := pipe_reach h
  rwa [pipe_final_done s hf] at hp

/-- **Logical content is schedule-independent**: for the clusters produced by any insertion
    sequence, after any complete schedule of the pipeline, every address denotes its own inserted
    bytes in the set of clusters that landed in the file, whatever order they landed in. -/
theorem c08_any_schedule (codec : Codec) (items : List Item) (n : Nat) (as : List PAct) (s : Pipe)
    (h : (Pipe.init ((Creator.init.addAll items).finalize).1 n).run codec as = some s)
    (hf : s.final = true) :
    ∀ i (_ : i < items.length),
      resolve s.done (((Creator.init.addAll items).finalize).2.getD i (0,0)) =
        some ((items.getD i ⟨[], false⟩).data, (items.getD i ⟨[], false⟩).comp) :=
  creator_roundtrip_any_arrival items s.done (c08_final_perm codec _ n as s h hf)

/-- **File level**: whatever complete schedule the pipeline follows, the bytes it produced
    (`s.out` with the recorded `s.addresses` = the layout of `s.done`, `c08_addresses`) framed into a
    pack read back, at every address, as the inserted bytes: the container's logical content does
    not depend on how the compression workers were scheduled. -/
theorem c08_file_any_schedule (H : Bytes → Bytes) (codec : Codec) (hcodec : codec.Sound)
    (hbyte : codec.byte ≤ 3) (m : ContentPackMeta) (hm : m.WF) (items : List Item) (n : Nat)
    (as : List PAct) (s : Pipe)
    (h : (Pipe.init ((Creator.init.addAll items).finalize).1 n).run codec as = some s)
    (hf : s.final = true)
    (hcomp : codec.byte = 0 → ∀ it ∈ items, it.comp = false)
    (hcount : items.length < 2 ^ 32) (hncl : s.done.length ≤ 2 ^ 20)
    (hdata : totalSize items < 2 ^ 64)
    (hsize : (contentPackWrite H codec m s.done ((Creator.init.addAll items).finalize).2).length < 2 ^ 48)
    (i : Nat) (hi : i < items.length) :
    contentGet codec.decompress'
        (contentPackWrite H codec m s.done ((Creator.init.addAll items).finalize).2) i =
      .ok (some (items[i]).data) :=
  contentGet_contentPackWrite hcodec
    ⟨hbyte, hm, c08_final_perm codec _ n as s h hf, hcomp, hcount, hncl, hdata, hsize⟩ i hi

/-- non-vacuity: a concrete schedule with 1 worker in which the raw cluster 1 overtakes the
    compressed cluster 0, reaching a final state -/
example :
    let codec : Codec := ⟨3, fun d => d ++ [0], fun _ => none⟩
    let cs : List Cluster := [⟨0, true, [[1, 2]]⟩, ⟨1, false, [[3]]⟩]
    ∃ s, (Pipe.init cs 1).run codec [.mainSend, .mainSend, .take 0, .write, .finish 0, .release 0, .write] = some s ∧
      s.final = true ∧ s.order = [1, 0] := by
  refine ⟨_, rfl, by decide, by decide⟩

/-- **The actions of the pipeline model are the statement sequences of the source**: on every run the
    statements of `ClusterWriterProxy::write_cluster` (compressed branch: wait while the counter is at the
    limit, increment, send to the workers; raw branch: send to the writer) and of the loop body of
    `ClusterCompressor::run` (receive, compress into a private buffer, send to the writer, lock, decrement,
    notify) are extracted from `creator/content_pack/clusterwriter.rs` and must be exactly the sequences
    that `.mainSend`, `.take`/`.finish`/`.release` of Model/Pipeline.lean stand for — the protocol under
    which `c08_no_deadlock`, `c08_terminates` and `c08_backpressure_inv` are proved. -/
theorem c08_pipeline_statements_are_source_statements :
    Generated.pipelineDispatchShape = mainSendCompressedStmts ∧
    Generated.pipelineRawShape = mainSendRawStmts ∧
    Generated.pipelineWorkerShape = workerTurnStmts :=
  gen_pipelineShapes

end Jubako
